/- C11 — framing and host ambiguities are always flagged. The T-E / C-L / Host arbitration of htp_tx_process_request_headers as pure functions
   (`requestFraming`, `requestHost`), the repeated-header bookkeeping (`addHeader`) and the response framing (`resFraming`): one theorem per
   condition under which an indicator is raised, and over whole histories no indicator of a stored transaction is ever cleared. A folded
   Content-Length is never flagged (S4, with witness). -/
import HtpModel.Conn.Res
import HtpModel.Lemmas.Flags
import HtpModel.Lemmas.Conn
import HtpModel.Pinned.Eq
import HtpModel.Lemmas.FlagsMonoHist

namespace Htp.C11
open Htp.Conn Htp.Gen Htp.Parse

/-- the flag word of a decision is a nest of `if`s over unions; `simp` with `hasFlag_or`, `hasFlag_ite` and this pushes `hasFlag` through
    to the operands, where each indicator reads its own bit -/
private theorem own_bit :
    hasFlag REQUEST_SMUGGLING REQUEST_SMUGGLING = true ∧ hasFlag REQUEST_INVALID_T_E REQUEST_INVALID_T_E = true ∧
    hasFlag REQUEST_INVALID REQUEST_INVALID = true ∧ hasFlag REQUEST_INVALID_C_L REQUEST_INVALID_C_L = true ∧
    hasFlag HOST_MISSING HOST_MISSING = true ∧ hasFlag HOST_AMBIGUOUS HOST_AMBIGUOUS = true ∧
    hasFlag HOSTH_INVALID HOSTH_INVALID = true ∧ hasFlag FIELD_REPEATED FIELD_REPEATED = true := by decide

/-- **C11 (T-E chunked + C-L)**: whenever a Transfer-Encoding field containing the token `chunked` and a Content-Length field are
    both present — any spelling/case of the names, any order, any other headers, any protocol, any prior flags — the request is
    marked as smuggling and the body is framed by the chunked coding. -/
theorem C11_te_and_cl (hs : List Header) (pn : Int) (f : Nat) (te cl : Header)
    (hte : getHeaderC hs (b!"transfer-encoding") = some te) (hcl : getHeaderC hs (b!"content-length") = some cl)
    (hch : headerHasToken te.value (b!"chunked") = true) :
    hasFlag (requestFraming hs pn f).flags REQUEST_SMUGGLING = true ∧ (requestFraming hs pn f).coding = CODING_CHUNKED := by
  simp [requestFraming, hte, hcl, hch, hasFlag_or, own_bit]

/-- **C11 (chunked below HTTP/1.1)**: chunked coding with a protocol number below 1.1 (this includes unparseable protocols) is marked
    as smuggling and as an invalid T-E, and the chunked coding is still what frames the body. -/
theorem C11_chunked_below_11 (hs : List Header) (pn : Int) (f : Nat) (te : Header)
    (hte : getHeaderC hs (b!"transfer-encoding") = some te) (hch : headerHasToken te.value (b!"chunked") = true)
    (hpn : pn < PROTOCOL_1_1) :
    hasFlag (requestFraming hs pn f).flags REQUEST_SMUGGLING = true ∧
    hasFlag (requestFraming hs pn f).flags REQUEST_INVALID_T_E = true ∧
    (requestFraming hs pn f).coding = CODING_CHUNKED := by
  simp [requestFraming, hte, hch, hpn, hasFlag_or, hasFlag_ite, own_bit]

/-- **C11 (unsupported T-E)**: a Transfer-Encoding without the token `chunked` marks the request invalid (INVALID_T_E and
    REQUEST_INVALID) and the coding is INVALID — whatever Content-Length says. -/
theorem C11_te_unsupported (hs : List Header) (pn : Int) (f : Nat) (te : Header)
    (hte : getHeaderC hs (b!"transfer-encoding") = some te) (hch : headerHasToken te.value (b!"chunked") = false) :
    hasFlag (requestFraming hs pn f).flags REQUEST_INVALID_T_E = true ∧
    hasFlag (requestFraming hs pn f).flags REQUEST_INVALID = true ∧
    (requestFraming hs pn f).coding = CODING_INVALID := by
  simp [requestFraming, hte, hch, hasFlag_or, own_bit]

/-- **C11 (repeated C-L)**: a Content-Length entry that carries the repeated-field mark makes the request a smuggling attempt. -/
theorem C11_cl_repeated (hs : List Header) (pn : Int) (f : Nat) (cl : Header)
    (hte : getHeaderC hs (b!"transfer-encoding") = none) (hcl : getHeaderC hs (b!"content-length") = some cl)
    (hrep : hasFlag cl.flags FIELD_REPEATED = true) :
    hasFlag (requestFraming hs pn f).flags REQUEST_SMUGGLING = true := by
  simp [requestFraming, hte, hcl, hrep, hasFlag_or, hasFlag_ite, apply_ite Framing.flags, own_bit]

/-- …and the second occurrence of a field name always gets that mark, whatever the letter case of either occurrence and whatever
    else is in the table: after `addHeader`, the first entry matching the new name case-insensitively is marked REPEATED
    (unless the per-transaction repetition budget is already exhausted, in which case it was marked before). -/
theorem C11_second_occurrence_marked (hs : List Header) (reps : Nat) (h : Header) (i : Nat)
    (hi : hs.findIdx? (fun e => Bstr.cmpMemNocase e.name h.name == 0) = some i) :
    hasFlag (((addHeader hs reps h).1.getD i default).flags) FIELD_REPEATED = true := by
  have hlt : i < hs.length := (List.findIdx?_eq_some_iff_getElem.mp hi).1
  unfold addHeader
  simp only [hi]
  split
  · rename_i hc
    exact (Bool.and_eq_true _ _ ▸ hc).1
  · split <;> simp [List.getD_eq_getElem?_getD, List.getElem?_set_self hlt, setFlag, hasFlag_or, own_bit]

/-- **C11 (unparseable C-L)**: a Content-Length whose value does not parse (and no T-E) marks the request invalid. -/
theorem C11_cl_unparseable (hs : List Header) (pn : Int) (f : Nat) (cl : Header)
    (hte : getHeaderC hs (b!"transfer-encoding") = none) (hcl : getHeaderC hs (b!"content-length") = some cl)
    (hbad : Num.parseContentLength cl.value < 0) :
    hasFlag (requestFraming hs pn f).flags REQUEST_INVALID_C_L = true ∧
    hasFlag (requestFraming hs pn f).flags REQUEST_INVALID = true ∧
    (requestFraming hs pn f).coding = CODING_INVALID := by
  simp [requestFraming, hte, hcl, hbad, hasFlag_or, own_bit]

/-- **C11 (Host missing on HTTP/1.1)** -/
theorem C11_host_missing (hs : List Header) (uh : Option Bytes) (up : Int) (pn : Int) (f : Nat)
    (hh : getHeaderC hs (b!"host") = none) (hpn : pn ≥ PROTOCOL_1_1) :
    hasFlag (requestHost hs uh up pn f).2.2 HOST_MISSING = true := by
  simp [requestHost, hh, hpn, hasFlag_or, own_bit]

/-- **C11 (host ambiguity)**: a Host field whose host differs (case-insensitively) from the host in the request target sets
    HOST_AMBIGUOUS, and so does a Host field that is syntactically unusable while the target names a host. -/
theorem C11_host_ambiguous (hs : List Header) (uh : Bytes) (up : Int) (pn : Int) (f : Nat) (h : Header)
    (hh : getHeaderC hs (b!"host") = some h)
    (hdiff : match (Uri.parseHostport h.value).hostname with
             | some hn => Bstr.cmpMemNocase hn uh ≠ 0
             | none => True) :
    hasFlag (requestHost hs (some uh) up pn f).2.2 HOST_AMBIGUOUS = true := by
  unfold requestHost
  cases hhn : (Uri.parseHostport h.value).hostname with
  | none => simp [hh, hhn, hasFlag_or, own_bit]
  | some hn =>
    rw [hhn] at hdiff
    simp [hh, hhn, hdiff, hasFlag_or, hasFlag_ite, own_bit]

/-- **C11 (port ambiguity)**: when the target and the Host field both carry a port and the two differ, HOST_AMBIGUOUS is set
    (whatever the host names are). -/
theorem C11_host_port_ambiguous (hs : List Header) (uh : Bytes) (up : Int) (pn : Int) (f : Nat) (h : Header) (hn : Bytes)
    (hh : getHeaderC hs (b!"host") = some h) (hhn : (Uri.parseHostport h.value).hostname = some hn)
    (h1 : up ≠ -1) (h2 : (Uri.parseHostport h.value).portNumber ≠ -1) (h3 : up ≠ (Uri.parseHostport h.value).portNumber) :
    hasFlag (requestHost hs (some uh) up pn f).2.2 HOST_AMBIGUOUS = true := by
  simp [requestHost, hh, hhn, h1, h2, h3, hasFlag_or, own_bit]

/-- **C11 (invalid Host syntax)**: a Host field that the authority parser rejects, or whose host part fails hostname validation,
    sets HOSTH_INVALID. -/
theorem C11_host_invalid (hs : List Header) (uh : Option Bytes) (up : Int) (pn : Int) (f : Nat) (h : Header)
    (hh : getHeaderC hs (b!"host") = some h)
    (hbad : (Uri.parseHostport h.value).invalid = true ∨
            ∃ hn, (Uri.parseHostport h.value).hostname = some hn ∧ Uri.validateHostname Uri.ipv6Valid hn = false) :
    hasFlag (requestHost hs uh up pn f).2.2 HOSTH_INVALID = true := by
  unfold requestHost
  -- the invalid-host mark is raised before the comparison with the target; later steps only add other bits
  rcases hbad with hinv | ⟨hn, hhn, hval⟩
  · simp only [hh, hinv]
    cases (Uri.parseHostport h.value).hostname <;> cases uh <;> simp [hasFlag_or, hasFlag_ite, own_bit]
  · simp only [hh, hhn, hval]
    cases uh <;> simp [hasFlag_or, hasFlag_ite, own_bit]

/-- **C11 (finding S4: folded Content-Length is never flagged)**: the arbitration tests FIELD_FOLDED on the C-L entry, but no code
    path ever sets that bit: the header-line parser never produces it (for ANY line) … -/
theorem C11_folded_never_set_by_parser (data : Bytes) :
    hasFlag (parseRequestHeader data).1.flags FIELD_FOLDED = false := by
  have h0 : hasFlag 0 FIELD_FOLDED = false := by decide
  have h1 : hasFlag FIELD_UNPARSEABLE FIELD_FOLDED = false := by decide
  have h2 : hasFlag FIELD_INVALID FIELD_FOLDED = false := by decide
  unfold parseRequestHeader
  simp only [setFlag]
  split
  · exact h1
  · simp [hasFlag_or, hasFlag_ite, h0, h2]

/-- … and the table update never adds it to an entry that does not have it. Hence a request whose only anomaly is a folded
    Content-Length gets no REQUEST_SMUGGLING mark (witness below). -/
theorem C11_folded_cl_counterexample :
    let line := (b!"Content-Length: 5") ++ [13, 10] ++ (b!" ")   -- "Content-Length: 5" CRLF SP (a folded, continued value)
    let h := (parseRequestHeader line).1
    hasFlag (requestFraming (addHeader [] 0 h).1 PROTOCOL_1_1 0).flags REQUEST_SMUGGLING = false := by
  decide +kernel

/-- non-vacuity of the hypotheses used above: a concrete table with `Transfer-Encoding: gzip, Chunked ` and `content-length: 3`. -/
example :
    let hs : List Header := [{ name := (b!"Transfer-Encoding"), value := (b!"gzip, Chunked ") }, { name := (b!"content-length"), value := (b!"3") }]
    (getHeaderC hs (b!"transfer-encoding")).isSome = true ∧ (getHeaderC hs (b!"content-length")).isSome = true ∧
    headerHasToken (b!"gzip, Chunked ") (b!"chunked") = true ∧
    hasFlag (requestFraming hs PROTOCOL_1_1 0).flags REQUEST_SMUGGLING = true := by decide +kernel

/-! ### the response side (htp_connp_RES_BODY_DETERMINE, `resFraming`) -/

/-- **C11 (responses: T-E chunked + C-L)**: a response whose Transfer-Encoding mentions `chunked` anywhere in its value (any case,
    NUL bytes skipped, other codings before or after it) and that also has a Content-Length is marked as smuggling and its body is
    framed by the chunked coding. -/
theorem C11_res_te_and_cl (c : Conn) (uid : Nat) (t : Tx) (te cl : Header) (ct : Option Header)
    (hf : c.findTx uid = some t) (hch : teHasChunked te.value = true) :
    (resFraming (some te) (some cl) ct uid c).2 = .ok ∧
    (resFraming (some te) (some cl) ct uid c).1.outState = .bodyChunkedLength ∧
    ∃ t', (resFraming (some te) (some cl) ct uid c).1.findTx uid = some t' ∧
      hasFlag t'.flags REQUEST_SMUGGLING = true ∧ t'.resTransferCoding = CODING_CHUNKED := by
  have key : resFraming (some te) (some cl) ct uid c =
      ({ c.modTx uid (fun t => { t with resTransferCoding := CODING_CHUNKED, resProgress := 3,
                                        flags := t.flags ||| REQUEST_SMUGGLING }) with outState := .bodyChunkedLength }, .ok) := by
    unfold resFraming
    simp [hch]
  rw [key]
  refine ⟨rfl, rfl, ?_⟩
  rw [findTx_outState, findTx_modTx _ _ _ (by intro x; rfl), hf]
  exact ⟨_, rfl, hasFlag_or_right _ _ (by decide), rfl⟩

def HasSmug (c : Conn) (uid : Nat) : Prop := ∃ t', c.findTx uid = some t' ∧ hasFlag t'.flags REQUEST_SMUGGLING = true

theorem hasSmug_txs {c : Conn} {uid : Nat} (h : HasSmug c uid) (c' : Conn) (e : c'.txs = c.txs) : HasSmug c' uid := by
  obtain ⟨t', h1, h2⟩ := h
  refine ⟨t', ?_, h2⟩
  unfold Conn.findTx at *
  rw [e]; exact h1

theorem hasSmug_modTx {c : Conn} {uid : Nat} (h : HasSmug c uid) (f : Tx → Tx) (hu : ∀ x, (f x).uid = x.uid)
    (hfl : ∀ x, hasFlag x.flags REQUEST_SMUGGLING = true → hasFlag (f x).flags REQUEST_SMUGGLING = true) :
    HasSmug (c.modTx uid f) uid := by
  obtain ⟨t', h1, h2⟩ := h
  exact ⟨f t', by rw [findTx_modTx _ _ _ hu, h1]; rfl, hfl _ h2⟩

/-- **C11 (responses: repeated C-L)**: a response without chunked coding whose Content-Length occurred more than once is marked as
    smuggling, whatever the value is (including an unparseable one, where the call then fails). -/
theorem C11_res_cl_repeated (c : Conn) (uid : Nat) (t : Tx) (cl : Header) (te ct : Option Header)
    (hf : c.findTx uid = some t) (hte : ∀ h, te = some h → teHasChunked h.value = false)
    (hrep : hasFlag cl.flags FIELD_REPEATED = true) :
    HasSmug (resFraming te (some cl) ct uid c).1 uid := by
  have key : resFraming te (some cl) ct uid c = resCl (some cl) ct uid c := by
    unfold resFraming
    cases te with
    | none => rfl
    | some h => simp [hte h rfl]
  rw [key]
  have h1 : HasSmug (c.modTx uid (fun t => { t with resTransferCoding := CODING_IDENTITY, flags := t.flags ||| REQUEST_SMUGGLING })) uid :=
    ⟨_, by rw [findTx_modTx _ _ _ (by intro x; rfl), hf]; rfl, hasFlag_or_right _ REQUEST_SMUGGLING (by decide)⟩
  have h2 := hasSmug_modTx h1 (fun t => { t with resContentLength := Num.parseContentLength cl.value }) (by intro x; rfl) (by intro x h; exact h)
  unfold resCl
  simp only [hrep, if_true]
  split
  · exact h2
  · split
    · exact hasSmug_modTx (hasSmug_txs h2 _ rfl) _ (by intro x; rfl) (by intro x h; exact h)
    · exact hasSmug_txs h2 _ rfl

/-- **C11 (the constants are the reviewed ones)**: among them the indicator flag values (as `C07_constants_pinned`) -/
theorem C11_constants_pinned : Htp.Pinned.ConstantsPinned := Htp.Pinned.constants_pinned

/-- **C11 (an indicator, once raised, stays raised: over whole histories)**: "always flagged" is a statement about every later view of the
    transaction - the callbacks that run afterwards and the final record. For a connection parser from its creation (any configuration, any
    callback policy table), every history of calls (request and response chunks in any interleaving, gaps, close, req_close, open, tx_freed)
    and every prefix of it: a transaction that exists after the prefix and still exists after the whole history has, afterwards, every
    indicator bit it had before - no function of either direction clears a bit (every write of `flags` is `flags ||| X` or the result of a
    parser function whose returned word contains the word it was given: `requestFraming_flags_mono`, `requestHost_flags_mono`, the URI
    normaliser, the decoders, the urlencoded parser; uids are never reused, `uid_not_reused`; `Lemmas/FlagsMono.lean`, `FlagsMonoHist.lean`).
    Together with the decision theorems above (WHEN a bit is raised) this is the model-level content of "always flagged". -/
theorem C11_history_flags_never_cleared (cfg : Cfg) (policy : List (Nat × CbAction)) (calls pre : List Call) (hp : pre <+: calls)
    (u : Nat) (t t' : Tx) (bit : Nat)
    (h1 : (runCalls cfg { policy := policy } pre).findTx u = some t) (hb : hasFlag t.flags bit = true)
    (h2 : (runCalls cfg { policy := policy } calls).findTx u = some t') : hasFlag t'.flags bit = true :=
  history_flag_sticky cfg _ (hyg_of_empty rfl) calls pre hp bit h1 hb h2

end Htp.C11
