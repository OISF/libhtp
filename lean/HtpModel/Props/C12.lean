/- C12 — path decoding and normalisation. Proved for every path and configuration: the pipeline never lengthens the path, its result has no
   "." or ".." segment and is a fixed point of the dot-segment remover; the hex and decoder tables are the reviewed ones; the translated
   normaliser and UTF-8 step return the model's values. A raw NUL is not flagged (S5, witness). That each decoding step equals the
   documented rule is left to the correspondence. -/
import HtpModel.Lemmas.Normalize
import HtpModel.Pinned.Eq
import HtpModel.Lemmas.CFunsNormalize
import HtpModel.Lemmas.CFunsUtf8

namespace Htp.C12
open Htp.Decode Htp.Gen

/-- **C12 (finding S5)**: a raw NUL byte in the path does not raise HTP_PATH_RAW_NUL — the path decoder
    only touches the expected status. Witness "/a\0b" under the default configuration. -/
theorem C12_raw_nul_counterexample :
    hasFlag (decodePath {} [0x2f, 0x61, 0x00, 0x62] 0 0).2.1 PATH_RAW_NUL = false := by decide +kernel

/-- **C12 (never longer)**: for every raw path and every decoder configuration the normalised path - percent/%u decoding, the
    UTF-8 stage (validation or best-fit conversion) and dot-segment removal - is never longer than the raw path. -/
theorem C12_never_longer (cfg : Gen.DecoderCfg) (path : Bytes) (flags : Nat) (status : Int) :
    (pipeline cfg path flags status).1.length ≤ path.length := pipeline_len cfg path flags status

/-- **C12 (stage bounds)**: each stage on its own is length-non-increasing (the generic decoder is the one applied to
    parameters, user info and fragments). -/
theorem C12_stage_bounds (cfg : Gen.DecoderCfg) (input : Bytes) (flags : Nat) (status : Int) :
    (decodePath cfg input flags status).1.length ≤ input.length ∧
    (urldecodeEx cfg input flags status).1.length ≤ input.length ∧
    (utf8DecodePath cfg input flags status).1.length ≤ input.length ∧
    (normalizePath input).length ≤ input.length :=
  ⟨decodePath_len .., urldecodeEx_len .., utf8DecodePath_len .., normalizePath_len _⟩

/-- **C12 (no dot segments)**: for every raw path and every decoder configuration, no segment of the normalised path (the pieces
    between slashes) is "." or "..". -/
theorem C12_no_dot_segments (cfg : Gen.DecoderCfg) (path : Bytes) (flags : Nat) (status : Int) :
    DotFree (pipeline cfg path flags status).1 := by
  unfold pipeline
  simp only
  split <;> exact normalizePath_dotFree _

/-- the dot-segment remover alone, and what "segment" means: `segs` splits on '/' -/
theorem C12_normalize_no_dot_segments (input : Bytes) : ∀ s ∈ segs (normalizePath input), s ≠ [0x2e] ∧ s ≠ [0x2e, 0x2e] := by
  intro s hs
  have h : ¬isDotSeg s = true := by rw [normalizePath_dotFree input s hs]; exact Bool.false_ne_true
  exact not_or.mp (mt (isDotSeg_iff s).mpr h)

example : normalizePath (b!"/a/./b/../c/.") = (b!"/a/c") ∧ segs (b!"/a/c") = [[], (b!"a"), (b!"c")] := by decide +kernel

/-- **C12 (unchanged by normalising again)**: dot-segment removal leaves a path without "." / ".." segments exactly as it is, so
    removing dot segments twice is the same as once - for every input - and the pipeline's result is a fixed point of the remover
    for every raw path and every decoder configuration. (The decoding stages are not idempotent and the property does not ask for
    that: "%2541" decodes to "%41", which decodes to "A".) -/
theorem C12_dot_free_fixed (p : Bytes) (h : DotFree p) : normalizePath p = p := normalizePath_of_dotFree p h

theorem C12_dot_removal_idempotent (p : Bytes) : normalizePath (normalizePath p) = normalizePath p :=
  normalizePath_of_dotFree _ (normalizePath_dotFree p)

theorem C12_pipeline_fixed_point (cfg : Gen.DecoderCfg) (path : Bytes) (flags : Nat) (status : Int) :
    normalizePath (pipeline cfg path flags status).1 = (pipeline cfg path flags status).1 :=
  normalizePath_of_dotFree _ (C12_no_dot_segments cfg path flags status)

example : normalizePath (b!"/a/../../b/./c/..") = (b!"/b") ∧ normalizePath (b!"/b") = (b!"/b") := by decide +kernel

/-- the hex-digit arithmetic of `x2c` (htp_util.c): `(c >= 'A' ? ((c & 0xdf) - 'A') + 10 : (c - '0'))`, in unsigned char -/
def x2cDigit (b : UInt8) : UInt8 := if b ≥ 0x41 then ((b &&& 0xdf) - 0x41) + 10 else b - 0x30

/-- **C12 (the escape table is the documented arithmetic)**: the two x2c tables the translator regenerates from the current source on every
    run are, for all 256 bytes - valid hex digits or not, which matters under HTP_URL_DECODE_PROCESS_INVALID - exactly
    `digit(a) * 16 + digit(b)`. A change to `x2c` that keeps valid escapes intact but moves any other byte breaks this by kernel evaluation. -/
theorem C12_x2c_table : ∀ b : UInt8, Htp.Gen.x2cLo b = x2cDigit b ∧ Htp.Gen.x2cHi b = x2cDigit b * 16 :=
  Htp.Decode.x2c_table

example : Htp.Gen.x2cHi 0x34 + Htp.Gen.x2cLo 0x31 = 0x41 ∧ Htp.Gen.x2cSeparable = true := by decide

/-- **C12 (the decoder tables are the reviewed ones)**: the UTF-8 automata, the best-fit map, the x2c tables and the decoder settings of the
    eight personalities htp_config_set_server_personality accepts, regenerated from the current source on every run, equal their reviewed
    snapshot (lean/HtpModel/Pinned, taken with tools/pin_tables.py). The model follows a regenerated table, so without this a changed table entry would be invisible to the
    correspondence; with it the change breaks this theorem by name. -/
theorem C12_decoder_tables_pinned : Htp.Pinned.DecoderTablesPinned := Htp.Pinned.decoderTables_pinned

/-- **C12 (the dot-segment remover, the code itself)**: htp_normalize_uri_path_inplace, translated from the current source (Gen/CFuns.lean:
    one shared array read at `rpos` and written at `wpos`, the pending character `c`, the two copies of "remove the last segment"), run on
    ANY path below 2^63 bytes, returns, leaves the buffer length unchanged, and the first `len` bytes of the buffer are exactly the model's
    `normalizePath` - within 2 * len + 2 turns of the main loop, every read and every write inside the buffer. The representation
    invariant of the proof (`Lemmas/CFunsNormalize.lean`) is `wpos + pending <= rpos <= len`: the write cursor never overtakes the read
    cursor, which is why rewriting in place is safe. -/
theorem C12_translated_normalize (d : Bytes) (h1 : d.length < 9223372036854775808) (fuel : Nat) (hf : 2 * d.length + 2 < fuel) :
    ∃ s', Htp.Gen.C.htp_normalize_uri_path_inplace fuel (Htp.CSem.memOf d) d.length = some (0, s') ∧
          s'.s__mem.length = d.length ∧
          s'.s__mem.take s'.s__len.toNat = Htp.CSem.memOf (normalizePath d) ∧ 0 ≤ s'.s__len ∧ s'.s__len ≤ d.length :=
  Htp.CFuns.htp_normalize_uri_path_inplace_eq d h1 fuel hf

/-- ... hence what the C function leaves in the buffer has no "." and no ".." segment (`C12_normalize_no_dot_segments` about the model,
    carried over to the translated code), for every path -/
theorem C12_translated_normalize_no_dot_segments (d : Bytes) (h1 : d.length < 9223372036854775808) :
    ∃ out : Bytes, (Htp.Gen.C.htp_normalize_uri_path_inplace (2 * d.length + 3) (Htp.CSem.memOf d) d.length).map
        (fun r => r.2.s__mem.take r.2.s__len.toNat) = some (Htp.CSem.memOf out) ∧
      ∀ s ∈ segs out, s ≠ [0x2e] ∧ s ≠ [0x2e, 0x2e] := by
  refine ⟨normalizePath d, ?_, C12_normalize_no_dot_segments d⟩
  have h := Htp.CFuns.htp_normalize_uri_path_inplace_bytes d h1 (2 * d.length + 3) (by omega)
  obtain ⟨r, hr, he⟩ := Option.map_eq_some_iff.mp h
  rw [hr]
  exact congrArg some (congrArg Prod.snd he)

example : (Htp.Gen.C.htp_normalize_uri_path_inplace 20 (Htp.CSem.memOf (b!"/a/../b")) 7).map
    (fun r => r.2.s__mem.take r.2.s__len.toNat) = some (Htp.CSem.memOf (b!"/b")) := by decide +kernel

/-- **C12 (one step of the UTF-8 automaton, the code itself)**: htp_utf8_decode_allow_overlong translated from the current source - two reads
    of the file-scope tables (tabulated and pinned by `C12_decoder_tables_pinned`), the bit operations, the 32-bit wraps - returns the model's
    `utf8Dfa` for every byte, every automaton state 0..8 and every code point; the new state is again in 0..8, so both table reads stay inside
    the 400-entry tables along any byte sequence. The bound is exact: with state 9 the second read is outside the table
    (`utf8_step_state9_undefined`). -/
theorem C12_translated_utf8_step (fuel state codep : Nat) (byte : UInt8) (hs : state ≤ 8) :
    (Htp.Gen.C.htp_utf8_decode_allow_overlong fuel state codep byte.toNat).map (fun r => (r.1, r.2.state, r.2.codep))
      = some (((utf8Dfa state codep byte).1 : Int), ((utf8Dfa state codep byte).1 : Int), ((utf8Dfa state codep byte).2 : Int)) ∧
    (utf8Dfa state codep byte).1 ≤ 8 := by
  refine ⟨?_, Htp.CFuns.utf8_step_state_le state codep byte hs⟩
  rw [Htp.CFuns.utf8_step_eq_any_codep fuel state codep byte hs]; rfl

end Htp.C12
