/- C19 — parsers sharing one configuration are independent. Proved: any interleaving of the calls of a family of parsers gives each the state it
   reaches alone (`C19_interleave` has no hypotheses); the library's only writable data symbols are the two reviewed ones and no source file but htp_config.c stores through a
   configuration pointer (regenerated every run). Thread-level races are outside the model. -/
import HtpModel.Conn.Res
import HtpModel.Gen.Footprint

namespace Htp.C19
open Htp.Conn Htp.Gen

/-- the API calls of one connection parser -/
inductive Call where
  | open | req (d : Option Bytes) (len : Nat) | res (d : Option Bytes) (len : Nat) | close | reqClose | txFreed

/-- one call on one connection: the configuration is an ARGUMENT and never a result — the model's form of
    "the shared configuration is never written during parsing" -/
def call (cfg : Cfg) (c : Conn) : Call → Conn × Nat
  | .open => (connOpen c, 0)
  | .req d n => reqData cfg d n c
  | .res d n => resData cfg d n c
  | .close => let r := connClose cfg c; (r.1, r.2.1)
  | .reqClose => reqClose cfg c
  | .txFreed => txFreed c

/-- a family of connections indexed by id, all created from the same configuration -/
abbrev Family := Nat → Conn

def stepFamily (cfg : Cfg) (f : Family) (k : Nat) (op : Call) : Family × Nat :=
  let r := call cfg (f k) op
  (fun j => if j = k then r.1 else f j, r.2)

/-- run a schedule (which connection makes which call, in which order); returns the family and every call's result with its owner -/
def runSchedule (cfg : Cfg) : Family → List (Nat × Call) → Family × List (Nat × Nat)
  | f, [] => (f, [])
  | f, (k, op) :: rest =>
    let (f', r) := stepFamily cfg f k op
    let (f'', rs) := runSchedule cfg f' rest
    (f'', (k, r) :: rs)

/-- the calls of connection `k` in a schedule, in order -/
def project (k : Nat) (s : List (Nat × Call)) : List Call := (s.filter (·.1 = k)).map (·.2)

def runSolo (cfg : Cfg) : Conn → List Call → Conn × List Nat
  | c, [] => (c, [])
  | c, op :: rest =>
    let (c', r) := call cfg c op
    let (c'', rs) := runSolo cfg c' rest
    (c'', r :: rs)

/-- **C19 (call-level independence)**: for every configuration, every family of connections and EVERY interleaving of their
    calls, each connection ends in exactly the state — and returns exactly the results — of running its own calls alone.
    (Every `Conn` value carries its own callback log, so "same callback sequence" is part of "same state".) -/
theorem C19_interleave (cfg : Cfg) (f : Family) (s : List (Nat × Call)) (k : Nat) :
    (runSchedule cfg f s).1 k = (runSolo cfg (f k) (project k s)).1 ∧
    ((runSchedule cfg f s).2.filter (·.1 = k)).map (·.2) = (runSolo cfg (f k) (project k s)).2 := by
  induction s generalizing f with
  | nil => exact ⟨rfl, rfl⟩
  | cons hd rest ih =>
    obtain ⟨j, op⟩ := hd
    simp only [runSchedule, stepFamily]
    by_cases hjk : j = k
    · subst hjk
      have h := ih (fun i => if i = j then (call cfg (f j) op).1 else f i)
      simp only [project, List.filter_cons, decide_true, if_true, List.map_cons, runSolo] at h ⊢
      exact ⟨h.1, by rw [h.2]⟩
    · have h := ih (fun i => if i = j then (call cfg (f j) op).1 else f i)
      have hne : ¬ (k = j) := fun e => hjk e.symm
      simp only [project, List.filter_cons, hjk, decide_false, Bool.false_eq_true, if_false] at h ⊢
      simp only [hne, if_false] at h
      exact h

/-- **C19 (write footprint, regenerated every run from the compiled objects and the sources)**: the only writable data symbols of
    the library are the two reviewed ones — `bestfit_1252` (a non-const table nobody stores to) and `lzma_Alloc` (function pointers
    in relocatable data) — and no source file other than htp_config.c stores through a configuration pointer. A new static cache,
    counter or a write to `cfg` during parsing breaks this obligation by name. -/
theorem C19_footprint :
    writableSymbols.map (·.2.1) = ["bestfit_1252", "lzma_Alloc"] ∧ cfgStores = [] := by
  decide +kernel

end Htp.C19
