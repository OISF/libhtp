/- C08 — work is linear in stream length. The model carries the part of the cost that is logic (key comparisons of a table lookup, tied to
   the code by the hook counter; iterations of the loops). Proved: a lookup costs at most one comparison per stored key; k pairwise
   different field names cost exactly k(k-1)/2 comparisons (the property's "not O(k^2)" is false for this family, S7a); a repeated name is
   found at once; REQ_LINE makes at most one iteration per unread byte; the loop of a request data call makes at most 8 len + 8 passes
   that go on (the pass that ends the call comes on top) from any between-calls state. For the response loop only the loop machinery and some progress lemmas (`C08_res_driver_passes_partial`);
   the cost of the whole parser is left to the measurement ladder of checks/c08.py. -/
import HtpModel.Lemmas.Cost
import HtpModel.Lemmas.Segment
import HtpModel.Lemmas.DriverFuel
import HtpModel.Lemmas.DriverFuelOut

namespace Htp.C08
open Htp Htp.Table Htp.Ring

theorem slotsCost_le (m : Bytes → Bool) : ∀ (l : List Slot), slotsCost m l ≤ (l.length + 1) / 2
  | [] => by simp [slotsCost]
  | [s] => by cases s <;> simp [slotsCost] <;> split <;> omega
  | s :: x :: rest => by
    have ih := slotsCost_le m rest
    cases s with
    | null => simp only [slotsCost, List.length_cons]; omega
    | val v => simp only [slotsCost, List.length_cons]; omega
    | key k => simp only [slotsCost, List.length_cons]; split <;> omega

/-- **C08 (one lookup is linear)**: htp_table_get makes at most one key comparison per stored key. -/
theorem C08_lookup_linear (t : Table) (key : Bytes) : getCost t key ≤ (Ring.size t.list + 1) / 2 := by
  unfold getCost
  rw [getLoopCost_abs _ t _ 0 (by simp [Ring.size]; omega), List.drop_zero]
  have := slotsCost_le (fun k => Bstr.cmpMemNocase k key == 0) (Ring.abs t.list)
  simpa [Ring.size] using this

/-- **C08 (k different names cost k(k-1)/2)**: for every capacity, every k and every list of k pairwise different names, processing
    them as a header block (look up, add when new) makes exactly k(k-1)/2 key comparisons: `2 * cost + k = k * k`. -/
theorem C08_distinct_names_quadratic (cap : Nat) (hc : 0 < cap) (ns : List Bytes)
    (hp : ns.Pairwise (fun a b => (Bstr.cmpMemNocase a b == 0) = false)) :
    2 * (insertNames (Table.create cap) ns).2 + ns.length = ns.length * ns.length := by
  have h := insertNames_distinct ns (Table.create cap) [] (create_pinv cap hc) (by intro x hx; simp at hx) hp
  have hcl := sumFrom_closed 0 ns.length
  rw [h]
  simp at hcl
  omega

/-- **C08 (a repeated name is found at once)**: when the first stored key matches, the lookup costs one comparison. -/
theorem C08_repeated_name_first_hit (t : Table) (key n : Bytes) (rest : List Bytes) (ha : Ring.abs t.list = slotsOf (n :: rest))
    (hm : (Bstr.cmpMemNocase n key == 0) = true) : getCost t key = 1 := by
  unfold getCost
  rw [getLoopCost_abs _ t _ 0 (by simp [Ring.size]; omega), List.drop_zero, ha]
  exact slotsCost_head _ n rest hm

theorem split_first (x : UInt8) : ∀ (l : Bytes), x ∈ l → ∃ pre rest, l = pre ++ x :: rest ∧ ∀ b ∈ pre, b ≠ x :=
  fun _ h => let ⟨pre, rest, e, hn⟩ := List.eq_append_cons_of_mem h; ⟨pre, rest, e, fun _ hb hbx => hn (hbx ▸ hb)⟩

/-- **C08 (REQ_LINE iterations)**: on a direction that is not closed, the REQ_LINE loop started with (unread bytes + 1) units of
    fuel ends in `reqLineComplete` (a LF was found) or in HTP_DATA_BUFFER (the chunk is used up) - it never runs out of fuel, i.e.
    it makes at most one iteration per unread byte. -/
theorem C08_reqline_iterations (cfg : Cfg) (c : Conn.Conn) (hs : c.inn.Sane) (hst : (c.inn.status == Gen.STREAM_CLOSED) = false) :
    (∃ d', Conn.reqLineLoop cfg ((c.inn.cur.drop c.inn.read.toNat).length + 1) c = Conn.reqLineComplete cfg { c with inn := d' }) ∨
    (∃ d', Conn.reqLineLoop cfg ((c.inn.cur.drop c.inn.read.toNat).length + 1) c = ({ c with inn := d' }, .dataBuffer)) := by
  by_cases hlf : LF ∈ c.inn.cur.drop c.inn.read.toNat
  · obtain ⟨pre, rest, hsplit, hpre⟩ := split_first LF _ hlf
    have hfuel : pre.length + 1 ≤ (c.inn.cur.drop c.inn.read.toNat).length + 1 := by rw [hsplit]; simp
    obtain ⟨d', h1, _, _⟩ := Conn.seg_reqLine_found cfg pre rest _ c hs hst hsplit hpre hfuel
    exact Or.inl ⟨d', h1⟩
  · obtain ⟨d', h1, _⟩ := Conn.seg_reqLine_more cfg _ _ c hs hst rfl (by intro b hb h; exact hlf (h ▸ hb)) (Nat.le_refl _)
    exact Or.inr ⟨d', h1⟩

/-- non-vacuity and scale: three different names cost 0 + 1 + 2 comparisons -/
example : (insertNames (Table.create 2) [(b!"Host"), (b!"Accept"), (b!"X-a")]).2 = 3 := by decide +kernel

/-- **C08 (the loop of a request data call makes a linear number of passes)**: from any state that satisfies the between-calls invariant (`HistInv`:
    it holds for the fresh parser and after every call history, `C09_history_invariant`), with any chunk of data and any callback policy, the
    `for (;;)` of htp_connp_req_data makes at most 8 * len + 8 passes: a potential `8 * (unread bytes) + rank of the state` strictly decreases with
    every pass that continues (one lemma per state function, `says_req*` of `Lemmas/Answer.lean`: an OK answer advanced the read cursor,
    moved to a later state or dropped a pending line; compared with the potential in `Lemmas/DriverFuel.lean`). In particular the
    model's own fuel 8 * len + 64 is never used up (`OutOfFuel` is false), and more fuel changes
    nothing. The attempt to prove this is what found S45: before the repair REQ_IDLE ignored the answer of the REQUEST_START callback, so a
    refusing callback made the loop create one transaction after the other on the same byte - without end if it always refuses. -/
theorem C08_req_driver_passes_linear (cfg : Cfg) (d : Bytes) (c : Conn.Conn) (hs : (d.length : Int) < 18446744073709551616)
    (h : Conn.HistInv cfg c) (n : Nat) (hn : 8 * d.length + 8 < n) :
    ¬ Conn.OutOfFuel cfg n (Conn.reqWakeOther (Conn.reqStoreChunk (some d) d.length c)) ∧
    ∀ k, Conn.reqDriverLoop cfg false (8 * d.length + 64 + k) (Conn.reqWakeOther (Conn.reqStoreChunk (some d) d.length c)) =
         Conn.reqDriverLoop cfg false (8 * d.length + 64) (Conn.reqWakeOther (Conn.reqStoreChunk (some d) d.length c)) :=
  ⟨Conn.reqData_passes_linear cfg d c hs h.2.2.1 h.clOK n hn, Conn.reqData_fuel_enough cfg d c hs h.2.2.1 h.clOK⟩

/-- **C08 (response direction, PARTIAL)**: the full statement - "the loop of htp_connp_res_data makes a linear number of passes from any
    between-calls state" - is NOT proved. What is: if some measure `mu` decreases with every continuing pass of the call, the loop ends within
    `mu` passes and more fuel changes nothing (the loop machinery), and the progress lemmas for RES_IDLE (it returns the answer of the
    RESPONSE_START callback - no analogue of S45), the chunk-data states and the close-delimited state (`Lemmas/DriverFuelOut.lean`). Missing: the
    progress lemmas for RES_LINE, RES_HEADERS, RES_BODY_DETERMINE, the Content-Length state, RES_BODY_CHUNKED_LENGTH and RES_FINALIZE, whose
    un-reads need an invariant along the call. A hypothesis is also needed that the request side does not need: `res_closed_with_data_spins`
    shows that a response direction marked CLOSED and then given a data chunk spins in RES_LINE (the model's fuel runs out) - a state that, by
    reading, no sequence of API calls reaches (close offers a NULL chunk of length 0 and the status is rewritten on return; tried on the
    library: data after htp_connp_close is parsed normally). -/
theorem C08_res_driver_passes_partial (cfg : Cfg) (mu : Conn.Conn → Nat) (c0 : Conn.Conn)
    (hdec : ∀ c c2, Conn.CallReachO cfg c0 c → Conn.resNext cfg c = some c2 → mu c2 < mu c)
    (n : Nat) (c : Conn.Conn) (hr : Conn.CallReachO cfg c0 c) (hf : mu c < n) :
    ¬ Conn.OutOfFuelO cfg n c ∧ ∀ k, Conn.resDriverLoop cfg false (n + k) c = Conn.resDriverLoop cfg false n c := by
  have key : ∀ n (c : Conn.Conn), Conn.CallReachO cfg c0 c → mu c < n → ¬ Conn.OutOfFuelO cfg n c := by
    intro n
    induction n with
    | zero => intro c _ h; omega
    | succ m ih =>
      intro c hr hf ⟨c2, h1, h2⟩
      have hlt := hdec c c2 hr h1
      have hr2 : Conn.CallReachO cfg c0 c2 := by
        rw [Conn.resNext_eq] at h1
        split at h1
        · rename_i hh
          cases h1
          exact hr.pass hh.1 hh.2
        · cases h1
      exact ih c2 hr2 (by omega) h2
  exact ⟨key n c hr hf, Conn.resDriverLoop_more_fuel cfg n c (key n c hr hf)⟩

end Htp.C08
