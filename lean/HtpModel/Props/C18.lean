/- C18 — allocation failure is survived without memory unsafety. `HtpModel.Own` mirrors the ownership logic of the list, table, bstr growth,
   string builder and connection object as traces over a heap whose k-th allocation fails. Proved: the list scenario is clean for every
   capacity, number of pushes and k; the other scenarios for every k up to a bound past the allocations of their fixed call sequence (kernel evaluation); the double free in
   htp_conn_open before its repair. Every other allocation site is covered only by the sweep of checks/c18.py, a search. -/
import HtpModel.Lemmas.Own

namespace Htp.Own

/-- **C18 (list)**: create a list with any capacity, push any number of elements (growth included), destroy it, with any single
    allocation of the sequence failing (or none): no block is freed that is not live, none is freed twice, none stays live. -/
theorem C18_list_clean (cap n k : Nat) : (listScenario cap n k).1.clean = true := by
  unfold listScenario
  simp only
  have hc := listCreate_spec cap { countdown := k } rfl rfl
  cases e : listCreate cap { countdown := k } with
  | mk h o =>
    rw [e] at hc
    cases o with
    | none => simp [H.clean, hc.1, hc.2]
    | some l =>
      have hd := listDestroy_clean _ _ (listPushes_inv n l h 0 hc)
      simp [H.clean, hd.1, hd.2]

/-- **C18 (connection object)**: htp_conn_create / htp_conn_open / htp_conn_destroy with the k-th allocation failing, for every k
    up to past the seven allocations of the fault-free run (a later k never fires): clean. -/
theorem C18_conn_clean : ∀ k, k ≤ 9 → (connScenario true k).1.clean = true := by decide +kernel

/-- before the repair (the released client address stayed in the structure) the failure of the seventh allocation - the
    strdup of the server address - made htp_conn_destroy free the client address a second time -/
theorem C18_conn_open_double_free_before_fix : (connScenario false 7).1.bad = true := by decide

theorem C18_bstr_clean : ∀ k, k ≤ 4 → (bstrScenario k).1.clean = true := by decide
theorem C18_table_clean : ∀ k, k ≤ 12 → (tableScenario 3 k).1.clean = true := by decide +kernel
theorem C18_builder_clean : ∀ k, k ≤ 8 → (builderScenario k).1.clean = true := by decide +kernel

/-- non-vacuity: the failing allocation really fires inside the scenarios (k = 2 makes the slot array of the list fail) -/
example : (listScenario 2 3 2).1.trace.contains .fail = true ∧ (listScenario 2 3 3).2 = 2 := by decide

end Htp.Own
