/- C03 — segmentation invariance. Proved for every chunk content and cursor position: the field under construction of a direction
   (`Dir.pending`) is what the state functions receive, is unchanged by the end-of-call buffering and by the next chunk, and grows by the
   byte copied; a request line cut anywhere into two calls reaches `reqLineComplete` with the bytes it has in one call; the inbound byte
   counter of a whole history depends on the request bytes only. The same composition for header lines, chunk-size lines and the response
   side, and the parsed record, are left to the correspondence and the canonical-run oracle of checks/c03.py. -/
import HtpModel.Lemmas.Segment
import HtpModel.Lemmas.HistoryCounters

namespace Htp.C03
open Htp Htp.Conn Htp.Gen

/-- **C03 (buffering keeps the field).** Setting aside the unconsumed tail of a chunk at the end of a call does not change the bytes
    of the field under construction, and leaves nothing unconsumed. -/
theorem C03_buffer_pending (d d' : Dir) (hard : Nat) (skip : Bool) (hs : d.Sane) (h : d.buffer hard skip = some d') :
    d'.pending = d.pending ∧ d'.consume = d'.read :=
  seg_buffer_pending d d' hard skip hs h

/-- **C03 (the next chunk).** When a call ended with nothing unconsumed, handing the parser the next chunk leaves the field under
    construction as it was. -/
theorem C03_next_chunk_pending (c : Conn) (data : Bytes) (h : c.inn.consume = c.inn.read) :
    (reqStoreChunk (some data) data.length c).inn.pending = c.inn.buf.getD [] ∧
    c.inn.pending = c.inn.buf.getD [] :=
  seg_next_chunk_pending c data h

/-- **C03 (consolidation).** What a state function receives as "the data of this field" is exactly the field under construction. -/
theorem C03_consolidate_pending (d d' : Dir) (data : Bytes) (hard : Nat) (skip : Bool) (hs : d.Sane)
    (h : d.consolidate hard skip = some (d', data)) : data = d.pending ∧ d'.pending = d.pending := by
  rcases Dir.consolidate_eq h with ⟨hb, rfl, rfl⟩ | ⟨_, hbu, rfl⟩
  · unfold Dir.pending
    simp [hb]
  · have := seg_buffer_pending d d' hard skip hs hbu
    refine ⟨?_, this.1⟩
    rw [← this.1]
    unfold Dir.pending
    rw [this.2, sliceCur_empty]
    simp

/-- **C03 (one more byte).** Copying the next byte of the chunk extends the field under construction by exactly that byte. -/
theorem C03_copyByte_pending (d d' : Dir) (b : UInt8) (hs : d.Sane) (h : d.copyByte = some (d', b)) :
    d'.pending = d.pending ++ [b] ∧ d'.Sane ∧ d.cur[d.read.toNat]? = some b :=
  seg_copyByte_pending d d' b hs h

/-- **C03 (request line, the line ends in this chunk).** If the unread part of the chunk is `pre ++ LF :: rest` with no LF in
    `pre`, the request-line state hands `reqLineComplete` a direction whose field under construction is what was pending before
    the call followed by `pre` and the LF - however many earlier chunks contributed to what was pending. -/
theorem C03_reqLine_found (cfg : Cfg) (pre rest : Bytes) (fuel : Nat) (c : Conn) (hs : c.inn.Sane) (hst : (c.inn.status == STREAM_CLOSED) = false)
    (hcur : c.inn.cur.drop c.inn.read.toNat = pre ++ LF :: rest) (hpre : ∀ b ∈ pre, b ≠ LF) (hf : pre.length + 1 ≤ fuel) :
    ∃ d', reqLineLoop cfg fuel c = reqLineComplete cfg { c with inn := d' } ∧
      d'.pending = c.inn.pending ++ pre ++ [LF] ∧ d'.Sane :=
  seg_reqLine_found cfg pre rest fuel c hs hst hcur hpre hf

/-- **C03 (request line, the chunk ends first).** If the unread part of the chunk has no LF, the request-line state runs out of
    bytes (HTP_DATA_BUFFER) with the whole unread part added to the field under construction - nothing is parsed, no callback runs. -/
theorem C03_reqLine_more (cfg : Cfg) (tail : Bytes) (fuel : Nat) (c : Conn) (hs : c.inn.Sane) (hst : (c.inn.status == STREAM_CLOSED) = false)
    (hcur : c.inn.cur.drop c.inn.read.toNat = tail) (hnl : ∀ b ∈ tail, b ≠ LF) (hf : tail.length + 1 ≤ fuel) :
    ∃ d', reqLineLoop cfg fuel c = ({ c with inn := d' }, .dataBuffer) ∧ d'.pending = c.inn.pending ++ tail ∧ d'.Sane ∧ d'.read = d'.len ∧
      d'.status = c.inn.status :=
  seg_reqLine_more cfg tail fuel c hs hst hcur hnl hf

/-- **C03 (a request line cut in two).** Feed the request-line state a chunk `a` without LF, let the driver set the tail aside
    (`Dir.buffer`, accepted by the hard limit), hand over the next chunk `b ++ LF :: rest`: `reqLineComplete` then receives exactly
    the bytes it receives when `a ++ b ++ LF :: rest` arrives as one chunk - what was pending, then `a ++ b`, then the LF. -/
theorem C03_request_line_cut (cfg : Cfg) (a b rest : Bytes) (c : Conn) (hs : c.inn.Sane) (hst : (c.inn.status == STREAM_CLOSED) = false)
    (hcur : c.inn.cur.drop c.inn.read.toNat = a) (ha : ∀ x ∈ a, x ≠ LF) (hb : ∀ x ∈ b, x ≠ LF)
    (hlen : ((b ++ LF :: rest).length : Int) < 9223372036854775808) :
    ∃ d1, reqLineLoop cfg (a.length + 1) c = ({ c with inn := d1 }, .dataBuffer) ∧
      ∀ d2, d1.buffer cfg.fieldLimitHard true = some d2 →
        ∃ d4, reqLineLoop cfg (b.length + 1) (reqStoreChunk (some (b ++ LF :: rest)) (b ++ LF :: rest).length { c with inn := d2 }) =
            reqLineComplete cfg { reqStoreChunk (some (b ++ LF :: rest)) (b ++ LF :: rest).length { c with inn := d2 } with inn := d4 } ∧
          d4.pending = c.inn.pending ++ (a ++ b) ++ [LF] := by
  obtain ⟨d1, h1, hp1, hs1, _, hst1⟩ := seg_reqLine_more cfg a (a.length + 1) c hs hst hcur ha (by omega)
  refine ⟨d1, h1, ?_⟩
  intro d2 hbuf
  have hb2 := seg_buffer_pending d1 d2 _ _ hs1 hbuf
  have hst2 : d2.status = d1.status := (congrArg Dir.status (Dir.buffer_same hbuf) :)
  let c3 := reqStoreChunk (some (b ++ LF :: rest)) (b ++ LF :: rest).length { c with inn := d2 }
  have hs3 : c3.inn.Sane := ⟨rfl, by show (0 : Int) ≤ 0; omega, by show (0 : Int) ≤ 0; omega,
    by show (0 : Int) ≤ ((b ++ LF :: rest).length : Int); omega, rfl, hlen⟩
  have hp3 : c3.inn.pending = c.inn.pending ++ a := by
    have := (seg_next_chunk_pending { c with inn := d2 } (b ++ LF :: rest) hb2.2)
    rw [this.1, ← this.2]
    show d2.pending = _
    rw [hb2.1, hp1]
  have hst3 : (c3.inn.status == STREAM_CLOSED) = false := by
    show (d2.status == STREAM_CLOSED) = false
    rw [hst2, hst1]; exact hst
  obtain ⟨d4, h4, hp4, _⟩ := seg_reqLine_found cfg b rest (b.length + 1) c3 hs3 hst3 (by show (b ++ LF :: rest).drop (0 : Int).toNat = _; rfl) hb (by omega)
  exact ⟨d4, h4, by rw [hp4, hp3]; simp⟩

/-- non-vacuity: a direction in the middle of a real chunk meets `Dir.Sane` and has the expected field under construction -/
example : ({ cur := (b!"GET / HT"), curNull := false, len := 8, read := 5, consume := 0, buf := some (b!"xx") } : Dir).Sane ∧
    ({ cur := (b!"GET / HT"), curNull := false, len := 8, read := 5, consume := 0, buf := some (b!"xx") } : Dir).pending = (b!"xxGET /") := by
  refine ⟨⟨rfl, by decide, by decide, by decide, by decide, by decide⟩, by decide⟩

/-- the request bytes of a history, concatenated -/
def reqBytes : List Conn.Call → Bytes
  | [] => []
  | .req d :: rest => d ++ reqBytes rest
  | _ :: rest => reqBytes rest

theorem offeredReq_eq_length (calls : List Conn.Call) : Conn.offeredReq calls = (reqBytes calls).length := by
  induction calls with
  | nil => rfl
  | cons call rest ih =>
    cases call <;> simp [Conn.offeredReq, reqBytes, ih]

/-- **C03 (segmentation invariance of the byte accounting, over whole histories)**: two histories that offer the same request bytes, cut into
    chunks in ANY two ways and interleaved with any other calls, and whose request calls are all accepted, leave the same inbound byte counter:
    it depends on the bytes, not on the segmentation (corollary of `C09_history_byte_counters`). The invariance of the PARSED record under
    segmentation is not a theorem of this kind: it is decided by the canonical-run oracle on the implementation. -/
theorem C03_counter_segmentation_invariant (cfg : Cfg) (c0 : Conn.Conn) (calls1 calls2 : List Conn.Call)
    (h1 : Conn.AllReqAccepted cfg c0 calls1) (h2 : Conn.AllReqAccepted cfg c0 calls2) (hb : reqBytes calls1 = reqBytes calls2) :
    (Conn.runCalls cfg c0 calls1).inDataCounter = (Conn.runCalls cfg c0 calls2).inDataCounter := by
  rw [Conn.history_inDataCounter_accepted cfg c0 calls1 h1, Conn.history_inDataCounter_accepted cfg c0 calls2 h2,
      offeredReq_eq_length, offeredReq_eq_length, hb]


end Htp.C03
