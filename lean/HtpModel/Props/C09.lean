/- C09 — stream API contract. Proved: ERROR and STOP are sticky for data calls (STOP is not across close, S8); every data call returns a
   documented state and DATA_OTHER only with bytes left; DATA means the whole chunk was consumed - per state function, per call from a state
   invariant, and after every call history on a fresh parser; ERROR is absorbing over histories; the byte counters add up the accepted
   lengths. Gaps are not among the calls of the history theorems; that a direction's hypotheses survive calls of the other one is part
   of the history invariant, not of the per-call theorems. -/
import HtpModel.Lemmas.ConsumedCallOut
import HtpModel.Lemmas.OwedOut
import HtpModel.Pinned.Eq
import HtpModel.Lemmas.History
import HtpModel.Lemmas.HistorySticky
import HtpModel.Lemmas.CFunsCounters
import HtpModel.Lemmas.HistoryCounters

namespace Htp.C09
open Htp.Conn Htp.Gen

/-- the six stream states a data call may return: those named in the comment of htp_connp_req_data (htp_connection_parser.h: DATA, ERROR,
    DATA_OTHER, CLOSED, TUNNEL) and STOP; not NEW, OPEN -/
def Documented (rc : Nat) : Prop :=
  rc = STREAM_CLOSED ∨ rc = STREAM_ERROR ∨ rc = STREAM_TUNNEL ∨ rc = STREAM_DATA_OTHER ∨ rc = STREAM_STOP ∨ rc = STREAM_DATA

def LoopPost (r : Conn × Nat) : Prop :=
  Documented r.2 ∧ (r.2 = STREAM_DATA_OTHER → r.1.inn.read < r.1.inn.len)

theorem post_const (c : Conn) (rc : Nat) (hd : Documented rc) (hn : rc ≠ STREAM_DATA_OTHER) : LoopPost (c, rc) :=
  ⟨hd, fun h => absurd h hn⟩

theorem reqEnds_post {cfg : Cfg} {c : Conn} {rc : Rc} {r : Conn × Nat} (h : ReqEnds cfg c rc r) : LoopPost r := by
  obtain ⟨c3, d, s, _, _, hs, rfl, hx⟩ := h
  refine ⟨?_, fun e => ?_⟩
  · rcases hs with rfl | rfl | rfl | rfl
    · exact .inr (.inl rfl)
    · exact .inr (.inr (.inr (.inr (.inr rfl))))
    · exact .inr (.inr (.inr (.inl rfl)))
    · exact .inr (.inr (.inr (.inr (.inl rfl))))
  · rcases hx with ⟨_, _, h1⟩ | ⟨_, _, rfl, rfl, _, h2⟩
    · rcases h1 with rfl | rfl
      · exact absurd e (show STREAM_DATA ≠ STREAM_DATA_OTHER by decide)
      · exact absurd e (show STREAM_ERROR ≠ STREAM_DATA_OTHER by decide)
    · exact h2 e

theorem reqDriverLoop_post (cfg : Cfg) (g : Bool) (fuel : Nat) (c : Conn) : LoopPost (reqDriverLoop cfg g fuel c) :=
  (reqDriverLoop_is cfg g).rule (I := fun _ => True) (fun _ _ => post_const _ _ (Or.inr (Or.inl rfl)) (by decide))
    (fun _ _ => post_const _ _ (Or.inl rfl) (by decide))
    (fun _ _ _ _ => ⟨fun _ _ => post_const _ _ (Or.inr (Or.inr (Or.inl rfl))) (by decide), fun _ _ => trivial,
      fun _ _ e => reqEnds_post e⟩) fuel c trivial

def LoopPostOut (r : Conn × Nat) : Prop :=
  Documented r.2 ∧ (r.2 = STREAM_DATA_OTHER → r.1.out.read < r.1.out.len)

theorem post_const_out (c : Conn) (rc : Nat) (hd : Documented rc) (hn : rc ≠ STREAM_DATA_OTHER) : LoopPostOut (c, rc) :=
  ⟨hd, fun h => absurd h hn⟩

theorem resEnds_post {cfg : Cfg} {c : Conn} {rc : Rc} {r : Conn × Nat} (h : ResEnds cfg c rc r) : LoopPostOut r := by
  obtain ⟨c3, d, s, _, _, hs, rfl, hx⟩ := h
  refine ⟨?_, fun e => ?_⟩
  · rcases hs with rfl | ⟨rfl, _⟩ | ⟨rfl, _⟩ | ⟨rfl, _⟩
    · exact .inr (.inl rfl)
    · exact .inr (.inr (.inr (.inr (.inr rfl))))
    · exact .inr (.inr (.inr (.inl rfl)))
    · exact .inr (.inr (.inr (.inr (.inl rfl))))
  · rcases hx with ⟨_, _, h1⟩ | ⟨_, _, rfl, rfl, _, h2⟩
    · rcases h1 with rfl | rfl
      · exact absurd e (show STREAM_DATA ≠ STREAM_DATA_OTHER by decide)
      · exact absurd e (show STREAM_ERROR ≠ STREAM_DATA_OTHER by decide)
    · exact h2 e

theorem resDriverLoop_post (cfg : Cfg) (g : Bool) (fuel : Nat) (c : Conn) : LoopPostOut (resDriverLoop cfg g fuel c) :=
  (resDriverLoop_is cfg g).rule (I := fun _ => True) (fun _ _ => post_const_out _ _ (Or.inr (Or.inl rfl)) (by decide))
    (fun _ _ => post_const_out _ _ (Or.inl rfl) (by decide))
    (fun _ _ _ _ => ⟨fun _ _ => post_const_out _ _ (Or.inr (Or.inr (Or.inl rfl))) (by decide), fun _ _ => trivial,
      fun _ _ e => resEnds_post e⟩) fuel c trivial

/-- **C09 (sticky ERROR, request direction)**: once the request direction is in ERROR, every data call — any bytes, any length,
    gap or close — returns ERROR, runs no callback (the event log and the callback counter are unchanged) and changes nothing
    but the "call is running" marker. -/
theorem C09_sticky_error_req (cfg : Cfg) (c : Conn) (data : Option Bytes) (len : Nat)
    (h : c.inn.status = STREAM_ERROR) :
    (reqData cfg data len c).2 = STREAM_ERROR ∧ (reqData cfg data len c).1.events = c.events ∧
    (reqData cfg data len c).1.cbCount = c.cbCount ∧ (reqData cfg data len c).1.inn.status = STREAM_ERROR ∧
    (reqData cfg data len c).1.txs = c.txs := reqData_of_error cfg data len c h

/-- **C09 (sticky STOP, request direction, data calls)** -/
theorem C09_sticky_stop_req (cfg : Cfg) (c : Conn) (data : Option Bytes) (len : Nat)
    (h : c.inn.status = STREAM_STOP) :
    (reqData cfg data len c).2 = STREAM_STOP ∧ (reqData cfg data len c).1.events = c.events ∧
    (reqData cfg data len c).1.cbCount = c.cbCount ∧ (reqData cfg data len c).1.inn.status = STREAM_STOP ∧
    (reqData cfg data len c).1.txs = c.txs := by
  simp [reqData, reqDataCore, h]

theorem C09_sticky_error_res (cfg : Cfg) (c : Conn) (data : Option Bytes) (len : Nat)
    (h : c.out.status = STREAM_ERROR) :
    (resData cfg data len c).2 = STREAM_ERROR ∧ (resData cfg data len c).1.events = c.events ∧
    (resData cfg data len c).1.cbCount = c.cbCount ∧ (resData cfg data len c).1.out.status = STREAM_ERROR ∧
    (resData cfg data len c).1.txs = c.txs := resData_of_error cfg data len c h

theorem C09_sticky_stop_res (cfg : Cfg) (c : Conn) (data : Option Bytes) (len : Nat)
    (h : c.out.status = STREAM_STOP) :
    (resData cfg data len c).2 = STREAM_STOP ∧ (resData cfg data len c).1.events = c.events ∧
    (resData cfg data len c).1.cbCount = c.cbCount ∧ (resData cfg data len c).1.out.status = STREAM_STOP ∧
    (resData cfg data len c).1.txs = c.txs := by
  simp [resData, resDataCore, h]

/-- ERROR survives `close` as well: htp_connp_close leaves an ERROR direction in ERROR and runs no callback for it. -/
theorem C09_sticky_error_close (cfg : Cfg) (c : Conn) (hi : c.inn.status = STREAM_ERROR) (ho : c.out.status = STREAM_ERROR) :
    (connClose cfg c).1.inn.status = STREAM_ERROR ∧ (connClose cfg c).1.out.status = STREAM_ERROR ∧
    (connClose cfg c).1.events = c.events := by
  have hes : STREAM_ERROR ≠ STREAM_STOP := by decide
  simp [connClose, reqData, reqDataCore, resData, resDataCore, hi, ho, hes]

/-- **C09 (finding S8)**: STOP is NOT sticky across `close`: htp_connp_close overwrites STOP with CLOSED and re-enters the parser.
    Witness: a connection whose request direction is in STOP and idle; after close the direction reports DATA. -/
theorem C09_stop_not_sticky_counterexample :
    (connClose {} { inn := { status := STREAM_STOP }, out := { status := STREAM_OPEN } }).1.inn.status ≠ STREAM_STOP := by
  decide

/-- **C09 (documented states; DATA_OTHER is strict)**: every request-data call returns one of the documented stream states, and when it
    returns DATA_OTHER the consumed count (the read cursor) is strictly smaller than the length offered - for every state, chunk,
    gap and callback policy. -/
theorem C09_req_call_contract (cfg : Cfg) (c : Conn) (data : Option Bytes) (len : Nat) :
    Documented (reqData cfg data len c).2 ∧
    ((reqData cfg data len c).2 = STREAM_DATA_OTHER → (reqData cfg data len c).1.inn.read < (reqData cfg data len c).1.inn.len) := by
  have stop (c : Conn) : LoopPost (c, STREAM_STOP) := post_const _ _ (Or.inr (Or.inr (Or.inr (Or.inr (Or.inl rfl))))) (by decide)
  have error (c : Conn) : LoopPost (c, STREAM_ERROR) := post_const _ _ (Or.inr (Or.inl rfl)) (by decide)
  exact reqDataCore_cases (P := LoopPost) cfg data len c (fun _ => stop _) (fun _ => error _) (fun _ _ => error _)
    (fun _ _ => post_const _ _ (Or.inl rfl) (by decide)) (fun _ _ => post_const _ _ (Or.inr (Or.inr (Or.inl rfl))) (by decide))
    (fun _ _ _ _ => reqDriverLoop_post ..)

theorem C09_res_call_contract (cfg : Cfg) (c : Conn) (data : Option Bytes) (len : Nat) :
    Documented (resData cfg data len c).2 ∧
    ((resData cfg data len c).2 = STREAM_DATA_OTHER → (resData cfg data len c).1.out.read < (resData cfg data len c).1.out.len) := by
  have stop (c : Conn) : LoopPostOut (c, STREAM_STOP) := post_const_out _ _ (Or.inr (Or.inr (Or.inr (Or.inr (Or.inl rfl))))) (by decide)
  have error (c : Conn) : LoopPostOut (c, STREAM_ERROR) := post_const_out _ _ (Or.inr (Or.inl rfl)) (by decide)
  exact resDataCore_cases (P := LoopPostOut) cfg data len c (fun _ => stop _) (fun _ => error _) (fun _ _ => error _)
    (fun _ _ => post_const_out _ _ (Or.inl rfl) (by decide)) (fun _ _ => post_const_out _ _ (Or.inr (Or.inr (Or.inl rfl))) (by decide))
    (fun _ _ _ _ => resDriverLoop_post ..)

/-- non-vacuity: the hand-over after a CONNECT request returns DATA_OTHER with bytes left -/
example : Documented STREAM_DATA_OTHER ∧ Documented STREAM_DATA := by
  refine ⟨Or.inr (Or.inr (Or.inr (Or.inl rfl))), Or.inr (Or.inr (Or.inr (Or.inr (Or.inr rfl))))⟩

/-- **C09 (DATA means the whole chunk was consumed), one pass of the driver**: in a state where the cursors are where the driver keeps them
    (`WFCur`: a real chunk, 0 <= consume <= read <= len <= |chunk| - needed for the request-line state only) and the body states still owe
    bytes (they are entered only with a positive amount owed), a request state function that answers HTP_DATA or HTP_DATA_BUFFER has moved the
    read cursor to the end of the chunk - for every state function, chunk, buffer content and callback policy. -/
theorem C09_data_means_consumed_step (cfg : Cfg) (c : Conn)
    (hw : c.inState = ReqState.line → WFCur c.inn)
    (ho1 : c.inState = ReqState.bodyIdentity → 0 < c.inn.bodyDataLeft)
    (ho2 : c.inState = ReqState.bodyChunkedData → 0 < c.inn.chunkedLength)
    (hd : (reqStateFn cfg c).2 = Rc.data ∨ (reqStateFn cfg c).2 = Rc.dataBuffer) :
    (reqStateFn cfg c).1.inn.len ≤ (reqStateFn cfg c).1.inn.read :=
  consumed_reqStateFn cfg c hw ho1 ho2 hd

/-- ... and the call then returns at once with STREAM_DATA (STREAM_ERROR when the line-buffer limit is hit) and exactly that cursor: the
    consumed count reported for a DATA answer is the length offered. (That the hypotheses hold in every state the driver loop reaches is an
    invariant of the whole machine: `C09_req_call_invariant`, `C09_history_invariant` below - the amounts owed between calls, the cursors
    from the store-chunk step of the call on, Lemmas/CursorInv.lean.) -/
theorem C09_data_means_consumed (cfg : Cfg) (fuel : Nat) (c : Conn)
    (hw : c.inState = ReqState.line → WFCur c.inn)
    (ho1 : c.inState = ReqState.bodyIdentity → 0 < c.inn.bodyDataLeft)
    (ho2 : c.inState = ReqState.bodyChunkedData → 0 < c.inn.chunkedLength)
    (hd : (reqStateFn cfg c).2 = Rc.data ∨ (reqStateFn cfg c).2 = Rc.dataBuffer) :
    ((reqDriverLoop cfg false (fuel + 1) c).2 = STREAM_DATA ∨ (reqDriverLoop cfg false (fuel + 1) c).2 = STREAM_ERROR) ∧
    (reqDriverLoop cfg false (fuel + 1) c).1.inn.len ≤ (reqDriverLoop cfg false (fuel + 1) c).1.inn.read := by
  have hne : (reqStateFn cfg c).2 ≠ Rc.ok := by rcases hd with h | h <;> rw [h] <;> decide
  rw [reqDriverLoop_data_succ, reqPass_of_ne_ok cfg c hne, if_neg (by simpa using hne)]
  obtain ⟨h1, h2, h3⟩ := (reqPassEnd_ends cfg _ _).of_data hd
  refine ⟨h1, ?_⟩
  rw [h2, h3]
  exact consumed_reqStateFn cfg c hw ho1 ho2 hd

/-- non-vacuity: a chunk that ends inside a request line is answered with DATA and read to its end -/
example :
    let c : Conn := { inn := { status := STREAM_DATA, cur := (b!"GET /"), len := 5 }, inState := .line }
    (reqStateFn {} c).2 = Rc.dataBuffer ∧ (reqStateFn {} c).1.inn.read = 5 := by decide +kernel

/-- **C09 (DATA means the whole chunk was consumed), response direction, one pass of the driver**: the same for the ten response state
    functions. The cursor hypothesis is needed in the status-line and header states (their line-end handling peeks and copies bytes);
    the two counted body states are entered only with a positive amount owed. -/
theorem C09_res_data_means_consumed_step (cfg : Cfg) (c : Conn)
    (hw : c.outState = ResState.line ∨ c.outState = ResState.headers → WFCur c.out)
    (ho1 : c.outState = ResState.bodyIdentityClKnown → 0 < c.out.bodyDataLeft)
    (ho2 : c.outState = ResState.bodyChunkedData → 0 < c.out.chunkedLength)
    (hd : (resStateFn cfg c).2 = Rc.data ∨ (resStateFn cfg c).2 = Rc.dataBuffer) :
    (resStateFn cfg c).1.out.len ≤ (resStateFn cfg c).1.out.read :=
  consumedOut_resStateFn_inv cfg (dirInv_wfCur _) peek_none_wf c hw ho1 ho2 hd

/-- ... and htp_connp_res_data then returns at once with STREAM_DATA (STREAM_ERROR at the line-buffer limit) and exactly that cursor. -/
theorem C09_res_data_means_consumed (cfg : Cfg) (fuel : Nat) (c : Conn)
    (hw : c.outState = ResState.line ∨ c.outState = ResState.headers → WFCur c.out)
    (ho1 : c.outState = ResState.bodyIdentityClKnown → 0 < c.out.bodyDataLeft)
    (ho2 : c.outState = ResState.bodyChunkedData → 0 < c.out.chunkedLength)
    (hd : (resStateFn cfg c).2 = Rc.data ∨ (resStateFn cfg c).2 = Rc.dataBuffer) :
    ((resDriverLoop cfg false (fuel + 1) c).2 = STREAM_DATA ∨ (resDriverLoop cfg false (fuel + 1) c).2 = STREAM_ERROR) ∧
    (resDriverLoop cfg false (fuel + 1) c).1.out.len ≤ (resDriverLoop cfg false (fuel + 1) c).1.out.read := by
  have hne : (resStateFn cfg c).2 ≠ Rc.ok := by rcases hd with h | h <;> rw [h] <;> decide
  rw [resDriverLoop_data_succ, resPass_of_ne_ok cfg c hne, if_neg (by simpa using hne)]
  obtain ⟨h1, h2, h3⟩ := (resPassEnd_ends cfg _ _).of_data hd
  refine ⟨h1, ?_⟩
  rw [h2, h3]
  exact C09_res_data_means_consumed_step cfg c hw ho1 ho2 hd

/-- non-vacuity: a chunk that ends inside a status line is answered with DATA_BUFFER and read to its end -/
example :
    let c : Conn := { out := { status := STREAM_DATA, cur := (b!"HTTP/1.1 2"), len := 10, tx := some 0 }, outState := .line,
                      txs := [some { uid := 0 }] }
    (resStateFn {} c).2 = Rc.dataBuffer ∧ (resStateFn {} c).1.out.read = 10 := by decide +kernel

/-- **C09 (DATA means the whole chunk was consumed), whole request data call**: htp_connp_req_data on ANY state, with any chunk of data and
    any callback policy, that returns HTP_STREAM_DATA has its read cursor exactly at the end of the chunk - the consumed count equals the
    length offered. Hypotheses: the line buffer within the hard limit when the call starts (carried from call to call,
    C10_req_call_buffer_bounded) and that every pass of this call (`CallReach`) finds the counted body states owing a positive amount. No
    hypothesis on the cursors: a call stores a well-formed chunk and every state function keeps it so (Lemmas/CursorInv). -/
theorem C09_req_call_data_means_consumed (cfg : Cfg) (d : Bytes) (c : Conn) (hs : (d.length : Int) < 18446744073709551616)
    (hb : inBufLen c ≤ cfg.fieldLimitHard)
    (ho : ∀ c', CallReach cfg (reqWakeOther (reqStoreChunk (some d) d.length c)) c' → OwedPos c')
    (hdata : (reqData cfg (some d) d.length c).2 = STREAM_DATA) :
    (reqData cfg (some d) d.length c).1.inn.read = (reqData cfg (some d) d.length c).1.inn.len :=
  reqData_data_consumed cfg d c hs hb ho hdata

/-- non-vacuity: a chunk that ends inside a request line: STREAM_DATA with read = len = 5 -/
example :
    let c : Conn := { inState := .line, inn := { status := STREAM_DATA, tx := some 0 }, txs := [some { uid := 0 }] }
    (reqData {} (some (b!"GET /")) 5 c).2 = STREAM_DATA ∧ (reqData {} (some (b!"GET /")) 5 c).1.inn.read = 5 ∧
    (reqData {} (some (b!"GET /")) 5 c).1.inn.len = 5 := by decide +kernel

/-- **C09 (DATA means the whole chunk was consumed), whole response data call**: the same for htp_connp_res_data - from ANY state, with any
    chunk of data and any callback policy, STREAM_DATA implies read = len. The loop invariant on this side is `WFBO` (0 <= consume,
    0 <= read <= len <= |chunk|, line buffer within the hard limit; `consume <= read` is not part of it because the response parser
    un-reads); hypotheses: the buffer bound carried from call to call and that every pass of the call finds the counted body states
    (Content-Length body, chunk data) still owing bytes. -/
theorem C09_res_call_data_means_consumed (cfg : Cfg) (d : Bytes) (c : Conn) (hs : (d.length : Int) < 18446744073709551616)
    (hb : outBufLen c ≤ cfg.fieldLimitHard)
    (ho : ∀ c', CallReachO cfg (resStoreChunk (some d) d.length c) c' → OwedPosO c')
    (hdata : (resData cfg (some d) d.length c).2 = STREAM_DATA) :
    (resData cfg (some d) d.length c).1.out.read = (resData cfg (some d) d.length c).1.out.len :=
  resData_data_consumed cfg d c hs hb ho hdata

/-- non-vacuity: an unterminated status line is answered with STREAM_DATA, read = len = 10 -/
example :
    let c : Conn := { outState := .line, out := { status := STREAM_DATA, tx := some 0 }, txs := [some { uid := 0 }] }
    (resData {} (some (b!"HTTP/1.1 2")) 10 c).2 = STREAM_DATA ∧ (resData {} (some (b!"HTTP/1.1 2")) 10 c).1.out.read = 10 ∧
    (resData {} (some (b!"HTTP/1.1 2")) 10 c).1.out.len = 10 := by decide +kernel

/-- **C09 (DATA means the whole chunk was consumed), from a state invariant**: the same conclusion when the counted body states owe bytes at
    the START of the call (`OwedPos`): inside the call the parser enters those states only with a positive amount and leaves them when it
    reaches zero (`Lemmas/Owed.lean`). Further hypothesis `ClAtDecision`: when REQ_BODY_DETERMINE runs, the Content-Length recorded for an
    identity body is not negative. -/
theorem C09_req_call_data_means_consumed_inv (cfg : Cfg) (d : Bytes) (c : Conn) (hs : (d.length : Int) < 18446744073709551616)
    (hb : inBufLen c ≤ cfg.fieldLimitHard) (h0 : OwedPos c)
    (hcl : ClAtDecision cfg (reqWakeOther (reqStoreChunk (some d) d.length c)))
    (hdata : (reqData cfg (some d) d.length c).2 = STREAM_DATA) :
    (reqData cfg (some d) d.length c).1.inn.read = (reqData cfg (some d) d.length c).1.inn.len :=
  reqData_data_consumed_inv cfg d c hs hb h0 hcl hdata

/-- ... and the two hypotheses on the state are an invariant of request data calls: they hold again when htp_connp_req_data returns, whatever
    it returns, so they are carried from call to call (calls of the response direction in between are not covered by this theorem). -/
theorem C09_req_call_invariant (cfg : Cfg) (d : Bytes) (c : Conn) (hs : (d.length : Int) < 18446744073709551616)
    (hb : inBufLen c ≤ cfg.fieldLimitHard) (h0 : OwedPos c)
    (hcl : ClAtDecision cfg (reqWakeOther (reqStoreChunk (some d) d.length c))) :
    inBufLen (reqData cfg (some d) d.length c).1 ≤ cfg.fieldLimitHard ∧ OwedPos (reqData cfg (some d) d.length c).1 :=
  reqData_invariant cfg d c hs hb h0 hcl

/-- non-vacuity: a freshly created connection satisfies both state hypotheses -/
example : inBufLen ({} : Conn) ≤ (({} : Cfg).fieldLimitHard) ∧ OwedPos ({} : Conn) := by
  refine ⟨by decide, ⟨fun e => ?_, fun e => ?_⟩⟩ <;> exact absurd e (by decide)

/-- **C09 (DATA means the whole chunk was consumed), whole response data call, from a state invariant**: the response side needs no
    counterpart of `ClAtDecision` - RES_BODY_DETERMINE refuses a negative Content-Length and enters the counted state only for a non-zero one. From ANY
    state with the line buffer within the limit and the counted body states owing bytes, any chunk of data, any callback policy:
    htp_connp_res_data returning STREAM_DATA has read = len. -/
theorem C09_res_call_data_means_consumed_inv (cfg : Cfg) (d : Bytes) (c : Conn) (hs : (d.length : Int) < 18446744073709551616)
    (hb : outBufLen c ≤ cfg.fieldLimitHard) (h0 : OwedPosO c)
    (hdata : (resData cfg (some d) d.length c).2 = STREAM_DATA) :
    (resData cfg (some d) d.length c).1.out.read = (resData cfg (some d) d.length c).1.out.len :=
  resData_data_consumed_inv cfg d c hs hb h0 hdata

/-- ... and both state hypotheses hold again when htp_connp_res_data returns: an invariant of response data calls (calls of the request
    direction in between are not covered by this theorem) -/
theorem C09_res_call_invariant (cfg : Cfg) (d : Bytes) (c : Conn) (hs : (d.length : Int) < 18446744073709551616)
    (hb : outBufLen c ≤ cfg.fieldLimitHard) (h0 : OwedPosO c) :
    outBufLen (resData cfg (some d) d.length c).1 ≤ cfg.fieldLimitHard ∧ OwedPosO (resData cfg (some d) d.length c).1 :=
  resData_invariant cfg d c hs hb h0

example : outBufLen ({} : Conn) ≤ (({} : Cfg).fieldLimitHard) ∧ OwedPosO ({} : Conn) := by
  refine ⟨by decide, ⟨fun e => ?_, fun e => ?_⟩⟩ <;> exact absurd e (by decide)

/-- **C09 (DATA means the whole chunk was consumed), request direction, hypotheses on the state only**: with `ClOK` in place of
    `ClAtDecision` - every stored transaction whose request body is identity-coded has a non-negative Content-Length (`Lemmas/ClInv.lean`:
    the framing function yields identity coding only together with a parsed, non-negative length, and nothing else writes those two fields). -/
theorem C09_req_call_data_means_consumed_closed (cfg : Cfg) (d : Bytes) (c : Conn) (hs : (d.length : Int) < 18446744073709551616)
    (hb : inBufLen c ≤ cfg.fieldLimitHard) (h0 : OwedPos c) (hcl : ClOK c)
    (hdata : (reqData cfg (some d) d.length c).2 = STREAM_DATA) :
    (reqData cfg (some d) d.length c).1.inn.read = (reqData cfg (some d) d.length c).1.inn.len :=
  reqData_data_consumed_inv cfg d c hs hb h0 (clAtDecision_store cfg _ _ c hcl) hdata

/-- **C09 over whole call histories (forall byte streams, chunkings, interleavings and callback return values)**: take ANY list of calls on a
    freshly created connection parser - request chunks and response chunks in any interleaving, htp_connp_open, htp_connp_req_close,
    htp_connp_close, htp_connp_tx_freed, any configuration, any callback policy (the policy is part of the state) - and any prefix of it that is
    followed by a data call: if that call returns HTP_STREAM_DATA, its read cursor stands at the end of the chunk offered. The only hypothesis is
    that each chunk is shorter than 2^64 bytes. Proof: the combined invariant `HistInv` (both line buffers within the hard limit, the counted body
    states of both directions still owing bytes, `ClOK`) holds for the fresh parser and is kept by every call of EITHER direction
    (`Lemmas/HistoryFrames.lean`: what the response side may do to the request side's view and vice versa; `Lemmas/History.lean`: the NULL
    chunk of a close, and the induction over the call list). Stream gaps are not among the calls. -/
theorem C09_history_data_means_consumed (cfg : Cfg) (calls : List Call) (hsz : SizesOK calls) :
    (∀ pre d, pre ++ [.req d] <+: calls → (reqData cfg (some d) d.length (runCalls cfg {} pre)).2 = STREAM_DATA →
      (reqData cfg (some d) d.length (runCalls cfg {} pre)).1.inn.read = (reqData cfg (some d) d.length (runCalls cfg {} pre)).1.inn.len) ∧
    (∀ pre d, pre ++ [.res d] <+: calls → (resData cfg (some d) d.length (runCalls cfg {} pre)).2 = STREAM_DATA →
      (resData cfg (some d) d.length (runCalls cfg {} pre)).1.out.read = (resData cfg (some d) d.length (runCalls cfg {} pre)).1.out.len) :=
  history_data_means_consumed cfg {} calls (histInv_fresh cfg) hsz

/-- the invariant itself, after every history on a fresh connection parser -/
theorem C09_history_invariant (cfg : Cfg) (calls : List Call) (hsz : SizesOK calls) : HistInv cfg (runCalls cfg {} calls) :=
  history_inv cfg {} calls (histInv_fresh cfg) hsz

/-- non-vacuity: an interleaved history whose two data calls return HTP_STREAM_DATA -/
example :
    let calls : List Call := [.open, .req (b!"GET /"), .res (b!"HTTP/1.1 2")]
    (reqData {} (some (b!"GET /")) 5 (runCalls {} {} [.open])).2 = STREAM_DATA ∧
    (resData {} (some (b!"HTTP/1.1 2")) 10 (runCalls {} {} [.open, .req (b!"GET /")])).2 = STREAM_DATA ∧
    (runCalls {} {} calls).inn.read = 5 ∧ (runCalls {} {} calls).out.read = 10 := by decide +kernel

/-- **C09 (sticky ERROR over whole histories: forall interleavings)**: once a direction's status is STREAM_ERROR it stays so through ANY list of
    later calls - data chunks of either direction, htp_connp_close, htp_connp_req_close, htp_connp_open, htp_connp_tx_freed, any configuration
    and callback policy (`Lemmas/HistorySticky.lean`: every write of `in_status` on the response side - refused CONNECT, 101, tunnel switch - and
    of `out_status` on the request side - the DATA_OTHER wake-up, the CONNECT probe - is guarded so that ERROR survives; close only overwrites
    a status that is not ERROR). -/
theorem C09_history_error_absorbing (cfg : Cfg) (c0 : Conn) (calls : List Call) :
    (c0.inn.status = STREAM_ERROR → (runCalls cfg c0 calls).inn.status = STREAM_ERROR) ∧
    (c0.out.status = STREAM_ERROR → (runCalls cfg c0 calls).out.status = STREAM_ERROR) :=
  ⟨history_error_sticky_req cfg c0 calls, history_error_sticky_res cfg c0 calls⟩

/-- **C09 (the clause in its own words)**: if, after any history `pre`, a request data call returns HTP_STREAM_ERROR, then after ANY further calls
    `mid` of either direction a later request data call returns HTP_STREAM_ERROR and runs no callback (event log and callback counter
    unchanged) - and the same for the response direction. The hypothesis `unsupported = false` excludes the one path of the MODEL that returns
    ERROR without recording it: its driver loop's fuel counter running out, which has no counterpart in the C (`for (;;)`). -/
theorem C09_history_error_then_error (cfg : Cfg) (c0 : Conn) (pre mid : List Call) (d d' : Bytes) :
    ((reqData cfg (some d) d.length (runCalls cfg c0 pre)).2 = STREAM_ERROR →
     (reqData cfg (some d) d.length (runCalls cfg c0 pre)).1.unsupported = false →
       let c1 := runCalls cfg c0 (pre ++ [.req d] ++ mid)
       (reqData cfg (some d') d'.length c1).2 = STREAM_ERROR ∧ (reqData cfg (some d') d'.length c1).1.events = c1.events ∧
       (reqData cfg (some d') d'.length c1).1.cbCount = c1.cbCount) ∧
    ((resData cfg (some d) d.length (runCalls cfg c0 pre)).2 = STREAM_ERROR →
     (resData cfg (some d) d.length (runCalls cfg c0 pre)).1.unsupported = false →
       let c1 := runCalls cfg c0 (pre ++ [.res d] ++ mid)
       (resData cfg (some d') d'.length c1).2 = STREAM_ERROR ∧ (resData cfg (some d') d'.length c1).1.events = c1.events ∧
       (resData cfg (some d') d'.length c1).1.cbCount = c1.cbCount) :=
  ⟨fun h1 h2 => let ⟨a, b, c, _⟩ := history_error_then_error_req cfg c0 pre mid d h1 h2 (some d') d'.length; ⟨a, b, c⟩,
   fun h1 h2 => let ⟨a, b, c, _⟩ := history_error_then_error_res cfg c0 pre mid d h1 h2 (some d') d'.length; ⟨a, b, c⟩⟩

/-- **C09 (byte counters, the code itself)**: htp_conn_track_inbound_data / htp_conn_track_outbound_data as translated from the current source add
    exactly the length offered to the connection's counter (the int64 store does not wrap while the total stays below 2^63) -/
theorem C09_translated_byte_counters (fuel : Nat) (len ctr : Int) (h0 : 0 ≤ ctr) (hl : 0 ≤ len) (hb : ctr + len < 9223372036854775808) :
    (Htp.Gen.C.htp_conn_track_inbound_data fuel (len := len) (conn_in_data_counter := ctr)).map (·.2.conn_in_data_counter) = some (ctr + len) ∧
    (Htp.Gen.C.htp_conn_track_outbound_data fuel (len := len) (conn_out_data_counter := ctr)).map (·.2.conn_out_data_counter) = some (ctr + len) := by
  rw [Htp.CFuns.htp_conn_track_inbound_data_eq fuel len ctr h0 hl hb, Htp.CFuns.htp_conn_track_outbound_data_eq fuel len ctr h0 hl hb]
  exact ⟨rfl, rfl⟩

/-- **C09 (the per-connection byte counters equal the bytes offered, over whole histories)**: for every history of calls - request and response
    chunks in any interleaving, close, req_close, open, tx_freed, any configuration and callback policy - in which every data call of a
    direction is accepted (returns DATA, DATA_OTHER or TUNNEL), that direction's counter has grown by exactly the sum of the lengths offered:
    nothing but the "store the chunk" step of the two data functions writes the counters (`Lemmas/HistoryCounters.lean`, `ConnSweep.lean`: the coordinate
    `KeepCtr` over every function of both directions and the driver loops), and an accepted call always passed through that step. Without
    the hypothesis the statement is false and must be: a call on a direction already in STOP / ERROR returns before it counts
    (`inDataCounter_lt_offered_after_error`: 21 bytes offered, 18 counted); in every history the counter is at most what was offered. -/
theorem C09_history_byte_counters (cfg : Cfg) (c0 : Conn) (calls : List Call) :
    (AllReqAccepted cfg c0 calls → (runCalls cfg c0 calls).inDataCounter = c0.inDataCounter + offeredReq calls) ∧
    (AllResAccepted cfg c0 calls → (runCalls cfg c0 calls).outDataCounter = c0.outDataCounter + offeredRes calls) :=
  ⟨history_inDataCounter_accepted cfg c0 calls, history_outDataCounter_accepted cfg c0 calls⟩

example :
    let calls : List Call := [.open, .req (b!"GET /"), .req (b!" HTTP/1"), .res (b!"HTTP/1.1 2")]
    (runCalls {} {} calls).inDataCounter = 12 ∧ (runCalls {} {} calls).outDataCounter = 10 := by decide +kernel

/-- **C09 (the constants are the reviewed ones)**: among them the stream state codes (as `C07_constants_pinned`) -/
theorem C09_constants_pinned : Htp.Pinned.ConstantsPinned := Htp.Pinned.constants_pinned

end Htp.C09
