/- C17 — containers and string/number primitives behave as their abstract types: the ring buffer as a double-ended sequence, the table as an
   insertion-ordered first-match multimap, the string builder as a list of pieces, the compare / search / number primitives as their
   mathematical definitions - and the same for the C functions as translated from the current source. -/
import HtpModel.Lemmas.Ring
import HtpModel.Lemmas.TableSim
import HtpModel.Lemmas.Builder
import HtpModel.Lemmas.Prims
import HtpModel.Lemmas.CFunsCmp
import HtpModel.Lemmas.CFunsSearch
import HtpModel.Lemmas.CFunsLine
import HtpModel.Lemmas.CFunsNum
import HtpModel.Lemmas.CFunsChunked
import HtpModel.Lemmas.CFunsNorzero
import HtpModel.Lemmas.CFunsRing
import HtpModel.Lemmas.CFunsBstr

namespace Htp.C17
open Htp.Ring

/-- operations of the list API -/
inductive Op (α : Type) where
  | push (e : α) | pop | shift | get (i : Nat) | replace (i : Nat) (e : α) | clear | size

/-- observable result of an operation -/
inductive Res (α : Type) where
  | unit | elem (e : Option α) | ok (b : Bool) | nat (n : Nat)
  deriving DecidableEq

variable {α : Type} [Inhabited α]

def stepImpl (r : Ring α) : Op α → Ring α × Res α
  | .push e => (push r e, .unit)
  | .pop => let (r', v) := pop r; (r', .elem v)
  | .shift => let (r', v) := shift r; (r', .elem v)
  | .get i => (r, .elem (get r i))
  | .replace i e => let (r', b) := replace r i e; (r', .ok b)
  | .clear => (clear r, .unit)
  | .size => (r, .nat (size r))

/-- the abstract type: a double-ended sequence -/
def stepSpec (l : List α) : Op α → List α × Res α
  | .push e => (l ++ [e], .unit)
  | .pop => (l.dropLast, .elem l.getLast?)
  | .shift => (l.tail, .elem l.head?)
  | .get i => (l, .elem l[i]?)
  | .replace i e => (if i < l.length then l.set i e else l, .ok (decide (i < l.length)))
  | .clear => ([], .unit)
  | .size => (l, .nat l.length)

def runImpl (r : Ring α) : List (Op α) → Ring α × List (Res α)
  | [] => (r, [])
  | o :: os => let (r', x) := stepImpl r o; let (r'', xs) := runImpl r' os; (r'', x :: xs)

def runSpec (l : List α) : List (Op α) → List α × List (Res α)
  | [] => (l, [])
  | o :: os => let (l', x) := stepSpec l o; let (l'', xs) := runSpec l' os; (l'', x :: xs)

theorem ring_step (r : Ring α) (w : WF r) (o : Op α) :
    WF (stepImpl r o).1 ∧ (stepImpl r o).2 = (stepSpec (abs r) o).2 ∧
    abs (stepImpl r o).1 = (stepSpec (abs r) o).1 := by
  cases o with
  | push e => exact ⟨push_wf r w e, rfl, abs_push r w e⟩
  | pop =>
    have h := pop_spec r w
    exact ⟨pop_wf r w, by simp [stepImpl, stepSpec, h.2], by simp [stepImpl, stepSpec, h.1]⟩
  | shift =>
    have h := shift_spec r w
    exact ⟨shift_wf r w, by simp [stepImpl, stepSpec, h.2], by simp [stepImpl, stepSpec, h.1]⟩
  | get i => exact ⟨w, by simp [stepImpl, stepSpec, get_eq], rfl⟩
  | replace i e =>
    have h := replace_spec r w i e
    exact ⟨replace_wf r w i e, by simp [stepImpl, stepSpec, h.1], by simp [stepImpl, stepSpec, h.2]⟩
  | clear => exact ⟨clear_wf r w, rfl, by simp [stepImpl, stepSpec]⟩
  | size => exact ⟨w, by simp [stepImpl, stepSpec, size], rfl⟩

/-- **C17 (list)**: for every operation sequence, from every well-formed ring (in particular a
    freshly created one of any capacity ≥ 1), the ring returns exactly what the double-ended
    sequence returns, across growth and wrap-around; no bound on length or capacity. -/
theorem ring_sim (r : Ring α) (w : WF r) (ops : List (Op α)) :
    (runImpl r ops).2 = (runSpec (abs r) ops).2 ∧ abs (runImpl r ops).1 = (runSpec (abs r) ops).1 ∧
    WF (runImpl r ops).1 := by
  induction ops generalizing r with
  | nil => exact ⟨rfl, rfl, w⟩
  | cons o os ih =>
    obtain ⟨w', hres, habs⟩ := ring_step r w o
    obtain ⟨h1, h2, h3⟩ := ih (stepImpl r o).1 w'
    simp only [runImpl, runSpec]
    rw [← habs]
    exact ⟨by rw [h1, hres], h2, h3⟩

theorem ring_sim_fresh (cap : Nat) (hc : 0 < cap) (ops : List (Op α)) :
    (runImpl (create cap : Ring α) ops).2 = (runSpec [] ops).2 := by
  have := (ring_sim (create cap : Ring α) (create_wf cap hc) ops).1
  simpa using this

/-- non-vacuity: a ring that has wrapped around and grown at `first ≠ 0` meets `WF`,
    and the run below exercises growth, wrap-around, pop, shift, replace and get. -/
example : (runImpl (create 2 : Ring Nat)
    [.push 1, .push 2, .shift, .push 3, .push 4, .pop, .replace 1 9, .get 1, .get 5, .size]).2
    = [.unit, .unit, .elem (some 1), .unit, .unit, .elem (some 4), .ok true, .elem (some 9), .elem none, .nat 2] := by
  decide +kernel

/-! ### the table (htp_table.c) as an insertion-ordered multimap -/
open Htp Htp.Table

/-- operations on a table whose keys are copied (htp_table_add) -/
inductive TOp where
  | add (k : Bytes) (v : Nat) | get (k : Bytes) | getC (k : Bytes) | size

inductive TRes where
  | ok (b : Bool) | val (v : Option Nat) | num (n : Nat)
  deriving DecidableEq

def stepT (t : Table) : TOp → Table × TRes
  | .add k v => let r := Table.add t k v; (r.1, .ok r.2)
  | .get k => (t, .val (Table.get t k))
  | .getC k => (t, .val (Table.getC t k))
  | .size => (t, .num (Table.size t))

/-- the abstract type: an insertion-ordered multimap, lookups return the first match under the case-insensitive comparison -/
def stepTSpec (ps : List (Bytes × Nat)) : TOp → List (Bytes × Nat) × TRes
  | .add k v => (ps ++ [(k, v)], .ok true)
  | .get k => (ps, .val (assocFind (fun c => Bstr.cmpMemNocase c k == 0) ps))
  | .getC k => (ps, .val (assocFind (fun c => Bstr.cmpMemNocaseNorzero c k == 0) ps))
  | .size => (ps, .num ps.length)

def runT (t : Table) : List TOp → List TRes
  | [] => []
  | o :: os => (stepT t o).2 :: runT (stepT t o).1 os

def runTSpec (ps : List (Bytes × Nat)) : List TOp → List TRes
  | [] => []
  | o :: os => (stepTSpec ps o).2 :: runTSpec (stepTSpec ps o).1 os

/-- **C17 (table)**: for every operation sequence, from every table that represents the pair list `ps` (in particular a fresh
    table of any capacity ≥ 1 and `ps = []`), `htp_table_add` / `htp_table_get` / `htp_table_get_c` / `htp_table_size` return exactly
    what the insertion-ordered multimap returns: lookups find the FIRST pair whose key matches case-insensitively (for `get_c`, with the
    NUL-skipping comparison), additions append and never fail, the size is the number of pairs. No bound on the number of pairs or
    on the growth of the underlying ring. -/
theorem C17_table_sim (t : Table) (ps : List (Bytes × Nat)) (hi : PInv t ps) (ops : List TOp) : runT t ops = runTSpec ps ops := by
  induction ops generalizing t ps with
  | nil => rfl
  | cons o os ih =>
    unfold runT runTSpec
    cases o with
    | add k v =>
      have h := add_pinv t ps k v hi
      simp only [stepT, stepTSpec, h.2]
      rw [ih _ _ h.1]
    | get k => simp only [stepT, stepTSpec, Table.get, getLoop_pinv _ t ps hi]; rw [ih _ _ hi]
    | getC k => simp only [stepT, stepTSpec, Table.getC, getLoop_pinv _ t ps hi]; rw [ih _ _ hi]
    | size => simp only [stepT, stepTSpec, size_pinv t ps hi]; rw [ih _ _ hi]

theorem C17_table_sim_fresh (cap : Nat) (hc : 0 < cap) (ops : List TOp) : runT (Table.create cap) ops = runTSpec [] ops :=
  C17_table_sim _ _ (create_pinv cap hc) ops

/-- non-vacuity: first match wins, case-insensitively, across growth of a capacity-1 ring -/
example : runT (Table.create 1) [.add (b!"Host") 1, .add (b!"host") 2, .add (b!"X") 3, .get (b!"HOST"), .get (b!"x"), .get (b!"y"), .size]
    = [.ok true, .ok true, .ok true, .val (some 1), .val (some 3), .val none, .num 3] := by decide +kernel

/-! ### the string builder (bstr_builder.c) as a list of pieces -/
open Htp.Builder in
section
/-- operations of the builder and the abstract type: the list of pieces appended since the last clear -/
inductive BOp where
  | append (d : Bytes) | appendC (d : Bytes) | clear | size | toStr

inductive BRes where
  | unit | num (n : Nat) | str (s : Bytes)
  deriving DecidableEq

def stepB (b : Builder) : BOp → Builder × BRes
  | .append d => (Builder.append b d, .unit)
  | .appendC d => (Builder.appendC b d, .unit)
  | .clear => (Builder.clear b, .unit)
  | .size => (b, .num (Builder.size b))
  | .toStr => (b, .str (Builder.toStr b))

def stepBSpec (ps : List Bytes) : BOp → List Bytes × BRes
  | .append d => (ps ++ [d], .unit)
  | .appendC d => (ps ++ [d.takeWhile (· != 0)], .unit)
  | .clear => ([], .unit)
  | .size => (ps, .num ps.length)
  | .toStr => (ps, .str ps.flatten)

def runB (b : Builder) : List BOp → List BRes
  | [] => []
  | o :: os => (stepB b o).2 :: runB (stepB b o).1 os

def runBSpec (ps : List Bytes) : List BOp → List BRes
  | [] => []
  | o :: os => (stepBSpec ps o).2 :: runBSpec (stepBSpec ps o).1 os

/-- **C17 (string builder)**: for every operation sequence the builder behaves as the list of pieces appended since the last clear:
    the size is the number of pieces and `bstr_builder_to_str` is their concatenation in order, across growth of the piece list. -/
theorem C17_builder_sim (b : Builder) (w : Ring.WF b.pieces) (ops : List BOp) : runB b ops = runBSpec (Ring.abs b.pieces) ops := by
  induction ops generalizing b with
  | nil => rfl
  | cons o os ih =>
    unfold runB runBSpec
    cases o with
    | append d =>
      simp only [stepB, stepBSpec]
      rw [ih (Builder.append b d) (Ring.push_wf _ w _)]
      simp [Builder.append, Ring.abs_push _ w]
    | appendC d =>
      simp only [stepB, stepBSpec]
      rw [ih (Builder.appendC b d) (Ring.push_wf _ w _)]
      simp [Builder.appendC, Builder.append, Ring.abs_push _ w]
    | clear =>
      simp only [stepB, stepBSpec]
      have hc : Ring.abs (Builder.clear b).pieces = [] ∧ Ring.WF (Builder.clear b).pieces := by
        unfold Builder.clear
        split
        · rename_i h
          exact ⟨List.eq_nil_of_length_eq_zero (by simpa [Builder.size, Ring.size] using h), w⟩
        · exact ⟨Ring.abs_clear _, Ring.clear_wf _ w⟩
      rw [ih (Builder.clear b) hc.2, hc.1]
    | size =>
      simp only [stepB, stepBSpec]
      rw [ih b w]
      simp [Builder.size, Ring.size]
    | toStr =>
      simp only [stepB, stepBSpec]
      rw [ih b w, Builder.toStr_eq]

theorem C17_builder_sim_fresh (ops : List BOp) : runB Builder.create ops = runBSpec [] ops := by
  simpa [Builder.create] using C17_builder_sim Builder.create (Ring.create_wf 16 (by decide)) ops

example : runB Builder.create [.append (b!"ab"), .appendC [0x63, 0x00, 0x64], .size, .toStr, .clear, .size, .toStr]
    = [.unit, .unit, .num 2, .str (b!"abc"), .unit, .num 0, .str []] := by decide +kernel
end

/-! ### string and number primitives equal their mathematical definitions -/
section
open Htp.Gen Htp.Bstr Htp.Num

/-- bstr_util_cmp_mem returns 0 exactly for equal byte strings -/
theorem C17_cmp_eq_zero_iff (a b : Bytes) : cmpMem a b = 0 ↔ a = b := by
  induction a generalizing b with
  | nil => cases b <;> simp [cmpMem]
  | cons x xs ih =>
    cases b with
    | nil => simp [cmpMem]
    | cons y ys =>
      by_cases h : x = y
      · simp [cmpMem, h, ih]
      · have : (if x < y then (-1 : Int) else 1) ≠ 0 := by split <;> decide
        simp [cmpMem, h, this]

/-- the three-way result is antisymmetric -/
theorem C17_cmp_antisymm (a b : Bytes) : cmpMem b a = - cmpMem a b := by
  induction a generalizing b with
  | nil => cases b <;> simp [cmpMem]
  | cons x xs ih =>
    cases b with
    | nil => simp [cmpMem]
    | cons y ys =>
      by_cases h : x = y
      · simp [cmpMem, h, ih]
      · have hne : x.toNat ≠ y.toNat := fun e => h (UInt8.toNat_inj.mp e)
        have : y < x ↔ ¬ x < y := by rw [UInt8.lt_iff_toNat_lt, UInt8.lt_iff_toNat_lt]; omega
        by_cases hl : x < y <;> simp [cmpMem, h, Ne.symm h, this, hl]

/-- the case-insensitive comparison is the exact comparison of the lower-cased strings -/
theorem C17_cmp_nocase_eq (a b : Bytes) : cmpMemNocase a b = cmpMem (lower a) (lower b) := by
  induction a generalizing b with
  | nil => cases b <;> rfl
  | cons x xs ih =>
    cases b with
    | nil => rfl
    | cons y ys => simp only [cmpMemNocase, ih]; rfl

/-- the NUL-skipping comparison ignores the NUL bytes of its first argument and nothing else -/
theorem C17_cmp_norzero_eq (a b : Bytes) : cmpMemNocaseNorzero a b = cmpMemNocase (a.filter (· != 0)) b := by
  induction a generalizing b with
  | nil => cases b <;> simp [cmpMemNocaseNorzero, cmpMemNocase]
  | cons x xs ih =>
    by_cases hx : x = 0
    · subst hx
      cases b with
      | nil => simp [cmpMemNocaseNorzero, ih]
      | cons y ys => simp [cmpMemNocaseNorzero, ih]
    · have h1 : (x == 0) = false := by simpa using hx
      have h2 : (x != 0) = true := by simpa using hx
      cases b with
      | nil => simp [cmpMemNocaseNorzero, h1, h2, List.filter, cmpMemNocase]
      | cons y ys =>
        simp only [cmpMemNocaseNorzero, h1, List.filter, h2, cmpMemNocase, Bool.false_eq_true, if_false]
        rw [ih]

/-- bstr_begins_with_mem is the prefix relation -/
theorem C17_begins_with_iff (hay needle : Bytes) : beginsWithMem hay needle = true ↔ needle <+: hay :=
  prim_begins_with_iff hay needle

/-- the case-insensitive prefix test is the exact test on the lower-cased strings -/
theorem C17_begins_with_nocase_eq (hay needle : Bytes) : beginsWithMemNocase hay needle = beginsWithMem (lower hay) (lower needle) := by
  unfold beginsWithMemNocase beginsWithMem
  induction needle generalizing hay with
  | nil => simp [prefixMatch, lower]
  | cons n ns ih =>
    cases hay with
    | nil => rfl
    | cons h hs => simp only [prefixMatch, ih]; rfl

/-- bstr_util_mem_index_of_mem returns the LEAST offset below the haystack's length at which the needle matches, and none iff there is no such offset -/
theorem C17_index_of_some (hay needle : Bytes) (r : Nat) (h : indexOfMem hay needle = some r) :
    r < hay.length ∧ needle <+: hay.drop r ∧ ∀ j, j < r → ¬ needle <+: hay.drop j := by
  simpa using ((indexOfAux_spec needle hay 0).1 r h).2

theorem C17_index_of_none (hay needle : Bytes) (h : indexOfMem hay needle = none) :
    ∀ j, j < hay.length → ¬ needle <+: hay.drop j :=
  (indexOfAux_spec needle hay 0).2 h

/-- bstr_chr returns the index of the first occurrence -/
theorem C17_chr_eq (b : Bytes) (c : UInt8) : chr b c = b.findIdx? (· == c) := by
  unfold chr; rw [chrAux_eq]; cases b.findIdx? (· == c) <;> simp

/-- bstr_to_lowercase / bstr_chop / bstr_add_mem_noex -/
theorem C17_lowercase_length (b : Bytes) : (toLowercase b).length = b.length := by simp [toLowercase]

theorem C17_add_noex_prefix (cap : Nat) (dst src : Bytes) (h : dst.length ≤ cap) :
    (addMemNoex cap dst src) = dst ++ src.take (cap - dst.length) ∧ (addMemNoex cap dst src).length ≤ cap := by
  unfold addMemNoex
  split
  · refine ⟨rfl, ?_⟩; simp; omega
  · rename_i hc
    have : src.take (cap - dst.length) = src := List.take_of_length_le (by omega)
    rw [this]; refine ⟨rfl, ?_⟩; simp; omega

/-- **C17 (number parsing)**: for a non-empty string of digits of the base whose positional value fits, bstr_util_mem_to_pint returns
    exactly that value and reports the whole string as consumed (lastlen = length + 1, as the C code documents). -/
theorem C17_pint_digits (base : Nat) (hb : 0 < base) (c : UInt8) (cs : Bytes)
    (hd : ∀ x ∈ c :: cs, ∃ d, digitVal x = some d ∧ d < base) (hfit : valueOf base (c :: cs) 0 ≤ INT64_MAX') :
    memToPint (c :: cs) base = (((valueOf base (c :: cs) 0 : Nat) : Int), (c :: cs).length + 1) :=
  by simpa using memToPint_run base hb c cs [] hd hfit (fun _ _ h => nomatch h)

/-- a byte that is not a digit of the base ends the number: nothing before it -> -1, otherwise the value so far and its offset -/
theorem C17_pint_no_digit (base : Nat) (c : UInt8) (cs : Bytes) (h : ∀ d, digitVal c = some d → d ≥ base) :
    memToPint (c :: cs) base = (-1, 0) := by
  unfold memToPint pintLoop
  cases hdv : digitVal c with
  | none => rfl
  | some d => simp [h d hdv]

/-- **C17 (integer with surrounding blanks)**: optional blanks, a non-empty digit string of the base whose value fits, optional blanks:
    htp_parse_positive_integer_whitespace returns exactly the positional value. -/
theorem C17_ppiw_value (base : Nat) (hb : 0 < base) (ws1 ws2 : Bytes) (c : UInt8) (cs : Bytes)
    (h1 : ∀ x ∈ ws1, isLws x = true) (h2 : ∀ x ∈ ws2, isLws x = true)
    (hd : ∀ x ∈ c :: cs, ∃ d, digitVal x = some d ∧ d < base) (hfit : valueOf base (c :: cs) 0 ≤ INT64_MAX') :
    parsePositiveIntegerWhitespace (ws1 ++ (c :: cs) ++ ws2) base = ((valueOf base (c :: cs) 0 : Nat) : Int) :=
  prim_ppiw_value base hb ws1 ws2 c cs h1 h2 hd hfit

/-- **C17 (chunk length)**: control bytes, then a non-empty run of hexadecimal digits, then anything that does not continue the run:
    htp_parse_chunked_length returns the hexadecimal value of the run when it fits in 31 bits and -1 when it is larger (and fits in 63). -/
theorem C17_chunked_length_value (ctl : Bytes) (c : UInt8) (cs rest : Bytes)
    (hctl : ∀ x ∈ ctl, isChunkedCtl x = true) (hc0 : isChunkedCtl c = false)
    (hd : ∀ x ∈ c :: cs, isHexDigitC x = true) (hrest : ∀ w ws, rest = w :: ws → isHexDigitC w = false)
    (hfit : valueOf 16 (c :: cs) 0 ≤ INT64_MAX') :
    (parseChunkedLength (ctl ++ (c :: cs) ++ rest)).1 =
      if valueOf 16 (c :: cs) 0 > INT32_MAX' then -1 else ((valueOf 16 (c :: cs) 0 : Nat) : Int) := by
  have hdw : (ctl ++ (c :: cs) ++ rest).dropWhile isChunkedCtl = c :: cs ++ rest := by
    rw [List.append_assoc, List.dropWhile_append_of_pos hctl]; exact List.dropWhile_cons_of_neg (by simp [hc0])
  have htw : (c :: cs ++ rest).takeWhile isHexDigitC = c :: cs := by
    rw [List.takeWhile_append_of_pos hd]
    cases rest with
    | nil => simp
    | cons w ws => simp [List.takeWhile_cons_of_neg, hrest w ws rfl]
  have hv : parsePositiveIntegerWhitespace (c :: cs) 16 = ((valueOf 16 (c :: cs) 0 : Nat) : Int) := by
    simpa using prim_ppiw_value 16 (by decide) [] [] c cs (by simp) (by simp) (fun x hx => digitVal_of_hexdigit x (hd x hx)) hfit
  have hne : ¬ (c :: cs ++ rest).length = 0 := by simp
  have hnn : ¬ ((valueOf 16 (c :: cs) 0 : Nat) : Int) < 0 := by omega
  simp only [parseChunkedLength, hdw, htw, hv, hne, hnn, if_false, gt_iff_lt, Int.ofNat_lt]
  split <;> rfl

/-- **C17 (Content-Length value)**: anything that is not a decimal digit, then a non-empty run of decimal digits whose value fits, then
    either the end or a byte that is not a decimal digit: htp_parse_content_length returns the value of that first run. -/
theorem C17_content_length_value (pre : Bytes) (c : UInt8) (cs post : Bytes)
    (hpre : ∀ x ∈ pre, (x.toNat < 48 || x.toNat > 57) = true)
    (hd : ∀ x ∈ c :: cs, ∃ d, digitVal x = some d ∧ d < 10) (hfit : valueOf 10 (c :: cs) 0 ≤ INT64_MAX')
    (hpost : ∀ w ws, post = w :: ws → ∀ d, digitVal w = some d → d ≥ 10) :
    parseContentLength (pre ++ (c :: cs) ++ post) = ((valueOf 10 (c :: cs) 0 : Nat) : Int) := by
  have hdw : (pre ++ (c :: cs) ++ post).dropWhile (fun c => c.toNat < 48 || c.toNat > 57) = c :: cs ++ post := by
    rw [List.append_assoc, List.dropWhile_append_of_pos hpre]
    exact List.dropWhile_cons_of_neg (by simp only [decdigit_range c (hd c (List.mem_cons_self ..))]; decide)
  have hlen : ¬ (pre ++ (c :: cs) ++ post).length = 0 := by simp
  have hne : ¬ (c :: cs ++ post).length = 0 := by simp
  simp only [parseContentLength, hdw, hlen, hne, if_false, memToPint_run 10 (by decide) c cs post hd hfit hpost]

example : memToPint (b!"1234") 10 = (1234, 5) ∧ memToPint (b!"ff") 16 = (255, 3) ∧ memToPint (b!"x1") 10 = (-1, 0) := by decide
example : parsePositiveIntegerWhitespace (b!" \t 1f \t") 16 = 31 := by decide
example : (parseChunkedLength (b!"\t1A;ext")).1 = 26 := by decide
example : parseContentLength (b!" 42; x") = 42 := by decide

end

/-! ### The code itself: leaf functions translated from the current /repo sources

`HtpModel/Gen/CFuns.lean` is written on every run by the control-flow translator `extract/ctrans.py` from clang's typed AST of the current
sources; the terms live in the small C semantics of `HtpModel/CSem.lean` (stores wrap to the C type, a read outside the array is undefined,
loops take fuel). The theorems below say that the TRANSLATED function - not a hand-written copy of it - returns the model's value for
every input, that every read stays inside the arrays handed in, and that the loops finish within the stated number of turns. Together with
the theorems above about the model functions they are statements about the current source; a change to one of these C functions
changes the generated term and the proof stops checking. -/
section Translated
open Htp.Gen.C Htp.CSem Htp.Bstr Htp.Num

/-- every function on the translator's list is inside the translated subset on this run -/
theorem C17_translator_complete : Htp.Gen.C.untranslated = [] := by decide

/-- **C17 (bstr_util_cmp_mem, translated code)**: for all byte strings below 2^63 bytes the C function, as translated, returns the model's
    three-way result, with every read inside the two arrays and the loop finished within len1 + 1 turns -/
theorem C17_translated_cmp_mem (d1 d2 : Bytes) (h1 : d1.length < 9223372036854775808) (h2 : d2.length < 9223372036854775808)
    (fuel : Nat) (hf : d1.length < fuel) :
    (bstr_util_cmp_mem fuel d1 d2 d1.length d2.length).map (·.1) = some (cmpMem d1 d2) :=
  Htp.CFuns.bstr_util_cmp_mem_eq d1 d2 h1 h2 fuel hf

/-- ... hence the translated code returns 0 exactly for equal strings (with `C17_cmp_eq_zero_iff`) -/
theorem C17_translated_cmp_mem_zero_iff (d1 d2 : Bytes) (h1 : d1.length < 9223372036854775808) (h2 : d2.length < 9223372036854775808) :
    (bstr_util_cmp_mem (d1.length + 1) d1 d2 d1.length d2.length).map (·.1) = some 0 ↔ d1 = d2 := by
  rw [C17_translated_cmp_mem d1 d2 h1 h2 _ (Nat.lt_succ_self _)]
  constructor
  · intro h; exact (C17_cmp_eq_zero_iff d1 d2).mp (Option.some.inj h)
  · intro h; rw [(C17_cmp_eq_zero_iff d1 d2).mpr h]

/-- **C17 (bstr_util_cmp_mem_nocase, translated code)** -/
theorem C17_translated_cmp_mem_nocase (d1 d2 : Bytes) (h1 : d1.length < 9223372036854775808) (h2 : d2.length < 9223372036854775808)
    (fuel : Nat) (hf : d1.length < fuel) :
    (bstr_util_cmp_mem_nocase fuel d1 d2 d1.length d2.length).map (·.1) = some (cmpMemNocase d1 d2) :=
  Htp.CFuns.bstr_util_cmp_mem_nocase_eq d1 d2 h1 h2 fuel hf

/-- **C17 (bstr_util_mem_index_of_mem, translated code)**: the nested search loop returns the first offset at which the needle occurs, -1 when
    there is none (`C17_index_of_some` / `C17_index_of_none` say what the model's value is); the haystack bound is what makes the C
    conversion `(int) i` exact -/
theorem C17_translated_index_of_mem (hay needle : Bytes) (h1 : hay.length ≤ 2147483648) (fuel : Nat) (hf : hay.length < fuel) :
    (bstr_util_mem_index_of_mem fuel hay needle hay.length needle.length).map (·.1)
      = some (match indexOfMem hay needle with | some i => (i : Int) | none => -1) :=
  Htp.CFuns.bstr_util_mem_index_of_mem_eq hay needle h1 fuel hf

/-- **C17 (character predicates, translated code)**: htp_is_lws / htp_is_text / htp_is_folding_char as translated return, on every byte, what the
    regenerated (and pinned) class tables say - the tables are tabulated by RUNNING the compiled functions, the terms are translated from their
    SOURCE: two independent routes from the code to the model that must meet. htp_is_folding_char(-1), the 'no byte' case, is 0. -/
theorem C17_translated_char_predicates (fuel : Nat) (c : UInt8) :
    (htp_is_lws fuel c.toNat).map (·.1) = some (b2i (Htp.Gen.isLws c)) ∧
    (htp_is_text fuel c.toNat).map (·.1) = some (b2i (Htp.Gen.isText c)) ∧
    (htp_is_folding_char fuel c.toNat).map (·.1) = some (b2i (Htp.Gen.isFoldingChar c)) ∧
    (htp_is_folding_char fuel (-1)).map (·.1) = some (b2i Htp.Gen.isFoldingCharNeg1) :=
  ⟨Htp.CFuns.htp_is_lws_eq fuel c, Htp.CFuns.htp_is_text_eq fuel c, Htp.CFuns.htp_is_folding_char_eq fuel c,
   Htp.CFuns.htp_is_folding_char_neg1 fuel⟩

/-- **C17 (line predicates, translated code)**: htp_is_line_empty for every buffer (the lazy && / || keep both reads inside it), and
    htp_is_line_whitespace for every buffer below 2^63 bytes within len + 1 loop turns, return the connection model's predicates -/
theorem C17_translated_line_predicates (d : Bytes) (h1 : d.length < 9223372036854775808) (fuel : Nat) (hf : d.length < fuel) :
    (htp_is_line_empty fuel d d.length).map (·.1) = some (b2i (Htp.Parse.isLineEmpty d)) ∧
    (htp_is_line_whitespace fuel d d.length).map (·.1) = some (b2i (Htp.Parse.isLineWhitespace d)) :=
  ⟨Htp.CFuns.htp_is_line_empty_eq fuel d, Htp.CFuns.htp_is_line_whitespace_eq d h1 fuel hf⟩

/-- **C17 (htp_chomp, translated code)**: the loop that strips line terminators from the END of a buffer (`data[*len - 1]`, several exits inside
    the loop) returns the model's count and leaves `*len` at the length of the model's result, which is a prefix of the input: the pair
    determines the result. Every read is inside the buffer (in particular `*len - 1` never wraps), at most len + 1 turns. -/
theorem C17_translated_chomp (d : Bytes) (h1 : d.length < 9223372036854775808) (fuel : Nat) (hf : d.length < fuel) :
    (htp_chomp fuel d d.length).map (fun r => (r.1, r.2.len)) = some (((Htp.Parse.chomp d).2 : Int), ((Htp.Parse.chomp d).1.length : Int)) ∧
    (Htp.Parse.chomp d).1 = d.take (Htp.Parse.chomp d).1.length :=
  ⟨Htp.CFuns.htp_chomp_eq d h1 fuel hf, Htp.CFuns.chomp_prefix d⟩

example : (htp_chomp 7 (b!"abc\r\n\n") 6).map (fun r => (r.1, r.2.len)) = some (2, 3) := by decide +kernel

/-- **C17 (search family, translated code)**: the case-insensitive search and the two NUL-skipping functions - including the `j--; continue`
    of the inner loop, whose `size_t` wrap at j = 0 is undone by the for-increment - return the model's values -/
theorem C17_translated_search_family (hay needle : Bytes) (h1 : hay.length ≤ 2147483648) (fuel : Nat) (hf : hay.length < fuel) :
    (bstr_util_mem_index_of_mem_nocase fuel hay needle hay.length needle.length).map (·.1)
      = some (match indexOfMemNocase hay needle with | some i => (i : Int) | none => -1) ∧
    (bstr_util_mem_index_of_mem_nocasenorzero fuel hay needle hay.length needle.length).map (·.1)
      = some (match indexOfMemNocaseNorzero hay needle with | some i => (i : Int) | none => -1) :=
  ⟨Htp.CFuns.bstr_util_mem_index_of_mem_nocase_eq hay needle h1 fuel hf,
   Htp.CFuns.bstr_util_mem_index_of_mem_nocasenorzero_eq hay needle h1 fuel hf⟩

theorem C17_translated_cmp_mem_nocasenorzero (d1 d2 : Bytes) (h1 : d1.length < 9223372036854775808) (h2 : d2.length < 9223372036854775808)
    (fuel : Nat) (hf : d1.length < fuel) :
    (bstr_util_cmp_mem_nocasenorzero fuel d1 d2 d1.length d2.length).map (·.1) = some (cmpMemNocaseNorzero d1 d2) :=
  Htp.CFuns.bstr_util_cmp_mem_nocasenorzero_eq d1 d2 h1 h2 fuel hf

/-- **C17 (bstr_util_mem_to_pint, translated code)**: for every array `x ++ junk` handed in with length |x| (the true contract of a
    (pointer, length) function), every base and every initial `*lastlen`, the C function as translated returns the model's value and `*lastlen`.
    The two stores `rval *= base; rval += d` go through the int64 wrap in the translated term; the proof shows they never wrap BECAUSE of the guard
    `(INT64_MAX - d) / base < rval -> return -2` - so the function reports -2 instead of wrapping, for all inputs. -/
theorem C17_translated_mem_to_pint (x junk : Bytes) (base : Nat) (l0 : Int) (hx : x.length < 9223372036854775808)
    (fuel : Nat) (hf : x.length < fuel) :
    (bstr_util_mem_to_pint fuel (x ++ junk) x.length base l0).map (fun r => (r.1, r.2.lastlen))
      = some ((memToPint x base).1, ((memToPint x base).2 : Int)) :=
  Htp.CFuns.bstr_util_mem_to_pint_eq x junk base l0 hx fuel hf

/-- **C17 (htp_parse_positive_integer_whitespace, translated code)** (with `C17_ppiw_value` this is the mathematical value of the digits) -/
theorem C17_translated_ppiw (x junk : Bytes) (base : Nat) (hx : x.length < 9223372036854775808) (fuel : Nat) (hf : x.length < fuel) :
    (htp_parse_positive_integer_whitespace fuel (x ++ junk) x.length base).map (·.1) = some (parsePositiveIntegerWhitespace x base) :=
  Htp.CFuns.htp_parse_positive_integer_whitespace_eq x junk base hx fuel hf

/-- **C17 (port, translated code: exact value or an error, never a wrapped value)**: htp_parse_port (static in htp_util.c) always returns, and
    either `*port = -1` with `*invalid = 1`, or `*port` is the exact unbounded value of the digits, that value lies in 1..65535 and `*invalid`
    is untouched. The conversion `(int) port_parsed` is part of the translated term (`i32`), so a narrower variable type - seeded change C17e -
    changes the term and this proof fails. -/
theorem C17_translated_port_exact_or_error (d : Bytes) (p0 i0 : Int) (hd : d.length < 9223372036854775808) (fuel : Nat) (hf : d.length < fuel) :
    ∃ r, htp_parse_port fuel d d.length p0 i0 = some r ∧
      ((r.2.port = -1 ∧ r.2.invalid = 1) ∨
       (r.2.port = parsePositiveIntegerWhitespace d 10 ∧ 1 ≤ r.2.port ∧ r.2.port ≤ 65535 ∧ r.2.invalid = i0)) := by
  obtain ⟨r, hr, he⟩ := Option.map_eq_some_iff.mp (List.append_nil d ▸ Htp.CFuns.htp_parse_port_eq d [] p0 i0 hd fuel hf)
  refine ⟨r, hr, ?_⟩
  have e1 : r.2.port = (Num.parsePort d).1 := congrArg Prod.fst he
  have e2 : r.2.invalid = if (Num.parsePort d).2 then 1 else i0 := congrArg Prod.snd he
  rw [e1, e2]
  unfold Num.parsePort
  by_cases h0 : d.length = 0
  · simp [h0]
  · by_cases hneg : Num.parsePositiveIntegerWhitespace d 10 < 0
    · simp [h0, hneg]
    · by_cases hrange : Num.parsePositiveIntegerWhitespace d 10 > 0 ∧ Num.parsePositiveIntegerWhitespace d 10 < 65536
      · right
        simp [h0, hneg, hrange]
        omega
      · simp [h0, hneg, hrange]

/-- **C17 (htp_parse_chunked_length, translated code)**: three loops (one of them moves the data pointer), then the call of the translated
    htp_parse_positive_integer_whitespace on the digit run with MORE bytes behind it - value and `*extension` are the model's -/
theorem C17_translated_chunked_length (d : Bytes) (h1 : d.length < 9223372036854775808) (fuel : Nat) (hf : d.length + 1 < fuel) (e0 : Int) :
    (htp_parse_chunked_length fuel d d.length e0).map (fun r => (r.1, r.2.extension))
      = some ((parseChunkedLength d).1, if (parseChunkedLength d).2 then 1 else e0) := by
  apply Htp.CFuns.htp_parse_chunked_length_eq _ d h1 fuel hf e0
  intro fuel x junk base hl _ _ hfu
  have hx : x.length < 9223372036854775808 := by
    have : (x ++ junk).length = x.length + junk.length := List.length_append
    omega
  exact Htp.CFuns.htp_parse_positive_integer_whitespace_eq x junk base hx fuel (by omega)

/-- **C17 (the ring buffer, translated code)**: htp_list_array_get / pop / push / replace / size / shift / clear as translated from htp_list.c
    (struct fields passed one by one, `elements` a mutable array, realloc / malloc / the two memcpy calls of the growth step as array
    operations), run one after the other from `htp_list_array_create(n)`, return for EVERY operation sequence the observations of a
    double-ended sequence and end in a well-formed ring whose abstraction is that sequence - the refinement `ring_sim` carried over to the
    code itself (capacity below 2^61 so that `max_size * 2` does not wrap; allocations succeed, failure is `htp_list_array_push_nomem`).
    Proving the step for `replace` is what found S43 (`Lemmas/CFunsRing.lean`, section 5). -/
theorem C17_translated_ring_sim (n : Nat) (hn : 0 < n) (ops : List Htp.CFuns.COp)
    (hK : n + ops.length < 2305843009213693952) :
    ∃ f, Htp.CFuns.runC (Htp.CFuns.fieldsOf (Htp.Ring.create n)) ops = some (f, (Htp.CFuns.runS [] ops).2) ∧
      Htp.Ring.WF (Htp.CFuns.ringOf f) ∧ Htp.Ring.abs (Htp.CFuns.ringOf f) = (Htp.CFuns.runS [] ops).1 :=
  Htp.CFuns.cring_sim_fresh n hn ops (fun _ _ => by unfold Htp.CFuns.COp.ok; split <;> trivial) hK

/-- **C17 (bstr accessors, translated code)**: the functions that take a `bstr *` (content and length passed as a buffer and an integer; bstr_ptr /
    bstr_len / bstr_adjust_len recognised by the translator) - indexed access from both ends, first and last occurrence of a byte (the C scans
    backwards, the model forwards: proved to meet), prefix tests with and without case folding, chop, and the in-place lower-casing loop that
    WRITES the buffer - return the model's values, for every string. -/
theorem C17_translated_bstr_access (d : Bytes) (h : d.length < 2147483648) (fuel : Nat) (hf : d.length < fuel) (pos : Nat) (c : UInt8) :
    (bstr_char_at fuel (memOf d) d.length pos).map (·.1) = some (match charAt d pos with | some x => (x.toNat : Int) | none => -1) ∧
    (bstr_char_at_end fuel (memOf d) d.length pos).map (·.1) = some (match charAtEnd d pos with | some x => (x.toNat : Int) | none => -1) ∧
    (bstr_chr fuel (memOf d) d.length c.toNat).map (·.1) = some (match chr d c with | some i => (i : Int) | none => -1) ∧
    (bstr_rchr fuel (memOf d) d.length c.toNat).map (·.1) = some (match rchr d c with | some i => (i : Int) | none => -1) :=
  ⟨Htp.CFuns.BstrC.bstr_char_at_eq fuel d pos, Htp.CFuns.BstrC.bstr_char_at_end_eq fuel d (by omega) pos,
   Htp.CFuns.BstrC.bstr_chr_eq d c h fuel hf, Htp.CFuns.BstrC.bstr_rchr_eq d c h fuel hf⟩

/-- prefix tests, chop and the in-place lower-casing (which writes the buffer) -/
theorem C17_translated_bstr_prefix_lower (hay needle : Bytes) (h1 : hay.length < 9223372036854775808)
    (h2 : needle.length < 9223372036854775808) (fuel : Nat) (hf : hay.length < fuel) :
    (bstr_begins_with_mem fuel needle (memOf hay) hay.length needle.length).map (·.1) = some (b2i (beginsWithMem hay needle)) ∧
    (bstr_begins_with_mem_nocase fuel needle (memOf hay) hay.length needle.length).map (·.1) = some (b2i (beginsWithMemNocase hay needle)) ∧
    (bstr_chop fuel (memOf hay) hay.length).map (fun r => (r.2.b_len, r.2.b_mem)) = some (((chop hay).length : Int), memOf hay) ∧
    (bstr_to_lowercase fuel (memOf hay) hay.length).map (fun r => (r.1, r.2.b_len, r.2.b_mem))
      = some (1, (hay.length : Int), memOf (toLowercase hay)) := by
  have hm : min hay.length needle.length < fuel := by omega
  refine ⟨Htp.CFuns.BstrC.bstr_begins_with_mem_eq hay needle h1 h2 fuel hm,
          Htp.CFuns.BstrC.bstr_begins_with_mem_nocase_eq hay needle h1 h2 fuel hm, ?_, ?_⟩
  · rw [Htp.CFuns.BstrC.bstr_chop_eq fuel hay h1]; rfl
  · rw [Htp.CFuns.BstrC.bstr_to_lowercase_eq hay h1 fuel hf]; rfl

/-- non-vacuity: the translated terms run -/
example : (bstr_util_cmp_mem 3 (b!"ab") (b!"ac") 2 2).map (·.1) = some (-1) := by decide +kernel
example : (bstr_util_mem_index_of_mem 6 (b!"hello") (b!"llo") 5 3).map (·.1) = some 2 := by decide +kernel

end Translated

end Htp.C17
