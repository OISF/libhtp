/- C10 — configured limits bound what the parser keeps. Proved: buffering accepts a tail only within `field_limit_hard` and refuses all or
   nothing; the line buffer stays within the limit through every state function, every whole data call and every call history; the
   translated htp_connp_req_buffer / res_buffer are the model's `Dir.buffer`; the transaction list and the header-repetition counters stay
   within max_tx + 1 and HTP_MAX_HEADERS_REPETITIONS over histories. That a counted body state never owes a negative amount is a hypothesis
   of the per-call theorems and part of the invariant of the history theorems. -/
import HtpModel.Lemmas.OwedOut
import HtpModel.Pinned.Eq
import HtpModel.Lemmas.History
import HtpModel.Lemmas.CFunsBuffer
import HtpModel.Lemmas.TxCount
import HtpModel.Lemmas.RepInv

namespace Htp.C10
open Htp.Conn Htp.Gen

theorem sliceCur_length_le (d : Dir) (a b : Int) : (sliceCur d a b).length ≤ (b - a).toNat :=
  sliceCur_len_le d a b

/-- **C10 (hard limit at the moment of buffering)**: whenever htp_connp_req_buffer / htp_connp_res_buffer accepts the unconsumed
    tail of a chunk, the bytes then retained for the unfinished line plus the pending (possibly folded) header are within
    `field_limit_hard`. Holds for every cursor position — including the un-read positions of the response side, where
    `read < consume` makes the size_t length wrap and the limit test fail — under the only assumption that the offsets are
    int64 values (the C type). -/
theorem C10_buffer_bound (d d' : Dir) (hard : Nat) (skip : Bool) (h : d.buffer hard skip = some d')
    (hnn : d.curNull = false) (hrange : d.read - d.consume < 9223372036854775808) :
    (d'.buf.map (·.length)).getD 0 + (d'.header.map (·.length)).getD 0 ≤ hard ∨ d' = d :=
  (Dir.buffer_need_le h (by omega)).symm

/-- **C10 (no silent truncation)**: when the limit test fails, buffering fails as a whole — `none`, which the drivers turn into
    a stream ERROR for that direction — and nothing of the over-long line is kept. -/
theorem C10_buffer_all_or_nothing (d : Dir) (hard : Nat) (skip : Bool) (hnn : d.curNull = false)
    (hover : (d.buf.map (·.length)).getD 0 + sizeOfInt (d.read - d.consume) + (d.header.map (·.length)).getD 0 > hard)
    (hne : ¬ (skip = true ∧ sizeOfInt (d.read - d.consume) = 0)) :
    d.buffer hard skip = none := by
  cases h : d.buffer hard skip with
  | none => rfl
  | some d' =>
    rcases Dir.buffer_eq h with ⟨_, hn | h0⟩ | ⟨_, hle, _⟩
    · rw [hnn] at hn; cases hn
    · exact absurd h0 hne
    · unfold Dir.bufferNeed at hle; omega

/-- **C10 (max_tx)**: with a non-zero `max_tx`, transaction creation never makes the list longer than `max_tx + 1`
    (it refuses once more than `max_tx` are held) — and creation is the only operation that appends to the list. -/
theorem C10_maxtx_create (cfg : Cfg) (c : Conn) (hm : 0 < cfg.maxTx) :
    (txCreate cfg c).1.txs.length ≤ max c.txs.length (cfg.maxTx + 1) := by
  unfold txCreate
  simp only
  split
  · simp; omega
  · rename_i hc
    simp only [List.length_append, List.length_cons, List.length_nil]
    have : ¬ (c.txs.length > cfg.maxTx) := by
      intro hgt
      apply hc
      simp [hm, hgt]
    omega

/-- repetition merging is capped: the per-transaction repetition counter never exceeds HTP_MAX_HEADERS_REPETITIONS through
    `addHeader`, and once it is reached a further repetition of a marked field leaves the table unchanged. -/
theorem C10_repetitions_capped (hs : List Parse.Header) (reps : Nat) (h : Parse.Header)
    (hr : reps ≤ MAX_HEADERS_REPETITIONS) :
    (addHeader hs reps h).2 ≤ MAX_HEADERS_REPETITIONS := by
  unfold addHeader
  split
  · exact hr
  · rename_i i _
    simp only
    by_cases hc : (hasFlag (hs.getD i default).flags FIELD_REPEATED && decide (reps ≥ MAX_HEADERS_REPETITIONS)) = true
    · simp only [hc, if_true]; exact hr
    · simp only [hc]
      by_cases hrep : hasFlag (hs.getD i default).flags FIELD_REPEATED = true
      · have hlt : ¬ (reps ≥ MAX_HEADERS_REPETITIONS) := by
          intro hge; apply hc; rw [hrep]; simp [hge]
        split <;> simp [hrep] <;> omega
      · split <;> simp [hrep] <;> exact hr

/-- **C10 (the line buffer stays within the hard limit, every state function)**: with the cursors inside the chunk and at most
    `field_limit_hard` bytes set aside, each of the fourteen request state functions - whatever it answers - leaves both so. (Hypothesis
    as in C01: no negative amount owed in the two counted body states.) -/
theorem C10_req_state_buffer_bounded (cfg : Cfg) (c : Conn) (w : WFB cfg.fieldLimitHard c.inn)
    (ho1 : c.inState = ReqState.bodyIdentity → 0 ≤ c.inn.bodyDataLeft)
    (ho2 : c.inState = ReqState.bodyChunkedData → 0 ≤ c.inn.chunkedLength) :
    WFB cfg.fieldLimitHard (reqStateFn cfg c).1.inn := wfbIn_reqStateFn cfg c w ho1 ho2

/-- **C10 (the line buffer stays within the hard limit, whole data call)**: htp_connp_req_data on ANY state with at most `field_limit_hard`
    bytes set aside, any chunk of data and any callback policy returns with at most `field_limit_hard` bytes set aside - so the bound
    is carried from call to call. `CallReach` names the states the call's loop passes through; the hypothesis is that none of them owes
    a negative amount in a counted body state (`C10_req_call_buffer_bounded_inv` below discharges it from the state invariant). -/
theorem C10_req_call_buffer_bounded (cfg : Cfg) (d : Bytes) (c : Conn) (hs : (d.length : Int) < 18446744073709551616)
    (hb : inBufLen c ≤ cfg.fieldLimitHard)
    (ho : ∀ c', CallReach cfg (reqWakeOther (reqStoreChunk (some d) d.length c)) c' → OwedOK c') :
    inBufLen (reqData cfg (some d) d.length c).1 ≤ cfg.fieldLimitHard := reqData_buffer_bounded cfg d c hs hb ho

/-- non-vacuity: an unterminated request line is set aside (5 bytes, limit 18000) -/
example :
    let c : Conn := { inState := .line, inn := { status := STREAM_DATA, tx := some 0 }, txs := [some { uid := 0 }] }
    inBufLen c ≤ (({} : Cfg).fieldLimitHard) ∧ inBufLen (reqData {} (some (b!"GET /")) 5 c).1 = 5 := by decide +kernel

/-- **C10 (response direction, every state function)**: the same for the ten response state functions. The cursor part of the invariant is
    weaker there (`WFO`: 0 <= consume, 0 <= read <= len <= |chunk|): after an un-read the consume offset may stand ahead of the read
    offset, and buffering then fails its limit test as a whole (C10_buffer_bound). -/
theorem C10_res_state_buffer_bounded (cfg : Cfg) (c : Conn) (w : WFBO cfg.fieldLimitHard c.out)
    (ho1 : c.outState = ResState.bodyIdentityClKnown → 0 ≤ c.out.bodyDataLeft)
    (ho2 : c.outState = ResState.bodyChunkedData → 0 ≤ c.out.chunkedLength) :
    WFBO cfg.fieldLimitHard (resStateFn cfg c).1.out := wfboOut_resStateFn cfg c w ho1 ho2

/-- **C10 (response direction, whole data call)**: htp_connp_res_data on ANY state with at most `field_limit_hard` bytes set aside, any chunk
    of data and any callback policy returns with at most `field_limit_hard` bytes set aside. -/
theorem C10_res_call_buffer_bounded (cfg : Cfg) (d : Bytes) (c : Conn) (hs : (d.length : Int) < 18446744073709551616)
    (hb : outBufLen c ≤ cfg.fieldLimitHard)
    (ho : ∀ c', CallReachO cfg (resStoreChunk (some d) d.length c) c' → OwedOKO c') :
    outBufLen (resData cfg (some d) d.length c).1 ≤ cfg.fieldLimitHard := resData_buffer_bounded cfg d c hs hb ho

/-- non-vacuity: an unterminated status line is set aside (10 bytes) -/
example :
    let c : Conn := { outState := .line, out := { status := STREAM_DATA, tx := some 0 }, txs := [some { uid := 0 }] }
    outBufLen c ≤ (({} : Cfg).fieldLimitHard) ∧ outBufLen (resData {} (some (b!"HTTP/1.1 2")) 10 c).1 = 10 := by decide +kernel

/-- **C10 (whole data call, from a state invariant)**: with the line buffer within the hard limit and the counted body states owing bytes when
    the call starts (`OwedPosO` / `OwedPos`), a call of either direction returns with both again (`Lemmas/Owed.lean`, `Lemmas/OwedOut.lean`).
    The request direction has the further hypothesis `ClAtDecision` (a non-negative Content-Length at the framing decision). -/
theorem C10_res_call_buffer_bounded_inv (cfg : Cfg) (d : Bytes) (c : Conn) (hs : (d.length : Int) < 18446744073709551616)
    (hb : outBufLen c ≤ cfg.fieldLimitHard) (h0 : OwedPosO c) :
    outBufLen (resData cfg (some d) d.length c).1 ≤ cfg.fieldLimitHard ∧ OwedPosO (resData cfg (some d) d.length c).1 :=
  resData_invariant cfg d c hs hb h0

theorem C10_req_call_buffer_bounded_inv (cfg : Cfg) (d : Bytes) (c : Conn) (hs : (d.length : Int) < 18446744073709551616)
    (hb : inBufLen c ≤ cfg.fieldLimitHard) (h0 : OwedPos c)
    (hcl : ClAtDecision cfg (reqWakeOther (reqStoreChunk (some d) d.length c))) :
    inBufLen (reqData cfg (some d) d.length c).1 ≤ cfg.fieldLimitHard ∧ OwedPos (reqData cfg (some d) d.length c).1 :=
  reqData_invariant cfg d c hs hb h0 hcl

/-- **C10 (request direction, hypotheses on the state only)**: with `ClOK` (`Lemmas/ClInv.lean`) in place of `ClAtDecision`; `ClOK` holds again
    when the call returns -/
theorem C10_req_call_buffer_bounded_closed (cfg : Cfg) (d : Bytes) (c : Conn) (hs : (d.length : Int) < 18446744073709551616)
    (hb : inBufLen c ≤ cfg.fieldLimitHard) (h0 : OwedPos c) (hcl : ClOK c) :
    inBufLen (reqData cfg (some d) d.length c).1 ≤ cfg.fieldLimitHard ∧ OwedPos (reqData cfg (some d) d.length c).1 ∧
    ClOK (reqData cfg (some d) d.length c).1 :=
  have ⟨h1, h2⟩ := reqData_invariant cfg d c hs hb h0 (clAtDecision_store cfg _ _ c hcl)
  ⟨h1, h2, (calls_reqData ..).tx.cl hcl⟩

/-- **C10 over whole call histories (forall streams, chunkings, configurations; after every call)**: after ANY list of calls on a freshly created
    connection parser - request and response chunks in any interleaving, open, req_close, close, tx_freed, any configuration and callback
    policy - and after every prefix of it, the bytes each direction has set aside for an unfinished line stay within the configured hard field
    limit. Only hypothesis: every chunk is shorter than 2^64 bytes. (Induction over the call list with the combined invariant `HistInv`,
    `Lemmas/History*.lean`; stream gaps are not among the calls.) -/
theorem C10_history_buffer_bounded (cfg : Cfg) (calls pre : List Call) (hsz : SizesOK calls) (hp : pre <+: calls) :
    inBufLen (runCalls cfg {} pre) ≤ cfg.fieldLimitHard ∧ outBufLen (runCalls cfg {} pre) ≤ cfg.fieldLimitHard :=
  history_buffer_bounded cfg {} calls pre (histInv_fresh cfg) hsz hp

/-- non-vacuity: after an unterminated request line and an unterminated status line 5 and 10 bytes are set aside -/
example :
    let c := runCalls {} {} [.open, .req (b!"GET /"), .res (b!"HTTP/1.1 2")]
    inBufLen c = 5 ∧ outBufLen c = 10 := by decide +kernel

/-- **C10 (the buffering function of the code itself)**: htp_connp_req_buffer, translated from the current source of htp_request.c (the fields of
    `htp_connp_t` it touches as state, `in_buf` with malloc / realloc / memcpy, allocation success a parameter), for ALL field values within
    2^62: it returns HTP_OK or HTP_ERROR; when it returns HTP_OK either the bytes set aside plus the pending header are within
    `field_limit_hard`, the buffer's recorded size is its real length and the consume cursor has moved to the read cursor - or nothing at all was
    touched (NULL chunk / nothing to set aside); when it returns HTP_ERROR the size and the cursor are unchanged and, if allocation works, the
    sum really was above the limit: all or nothing. `htp_connp_res_buffer` is the same function with the `out_` fields except that it has no
    `len == 0` early return (a difference of the source that the model mirrors with its `skipEmpty` flag). -/
theorem C10_translated_req_buffer (fuel : Nat) (cur : Bytes) (dnull : Int) (buf : List Int)
    (bnull size consume read hlen hnull hard alloc : Int)
    (hc0 : 0 ≤ consume) (hcr : consume ≤ read) (hr : read < 4611686018427387904)
    (hs0 : 0 ≤ size) (hs : size < 4611686018427387904) (hh0 : 0 ≤ hlen) (hh : hlen < 4611686018427387904)
    (r : Int) (s : Htp.Gen.C.St_htp_connp_req_buffer)
    (h : Htp.Gen.C.htp_connp_req_buffer fuel (connp_in_current_data := cur) (connp_in_current_data_null := dnull) (connp_in_buf := buf)
        (connp_in_buf_null := bnull) (connp_in_buf_size := size) (connp_in_current_consume_offset := consume)
        (connp_in_current_read_offset := read) (connp_in_header_len := hlen) (connp_in_header_null := hnull)
        (connp_in_tx_cfg_field_limit_hard := hard) (alloc_ok := alloc) = some (r, s)) :
    (r = 1 ∨ r = -1) ∧ s.connp_in_current_read_offset = read ∧
    (r = 1 →
      (s.connp_in_buf_size + (if hnull = 0 then hlen else 0) ≤ hard ∧ s.connp_in_buf_size ≤ size + (read - consume) ∧
        (s.connp_in_buf.length : Int) = s.connp_in_buf_size ∧ s.connp_in_buf_null = 0 ∧
        s.connp_in_current_consume_offset = read) ∨
      (s.connp_in_buf = buf ∧ s.connp_in_buf_null = bnull ∧ s.connp_in_buf_size = size ∧
        s.connp_in_current_consume_offset = consume ∧ (dnull ≠ 0 ∨ read - consume = 0))) ∧
    (r = -1 →
      s.connp_in_buf_size = size ∧ s.connp_in_current_consume_offset = consume ∧
      (s.connp_in_buf_null ≠ 0 ↔ bnull ≠ 0) ∧ (bnull = 0 → s.connp_in_buf = buf) ∧
      (alloc ≠ 0 → size + (read - consume) + (if hnull = 0 then hlen else 0) > hard)) :=
  Htp.CFuns.htp_connp_req_buffer_c10 fuel cur dnull buf bnull size consume read hlen hnull hard alloc hc0 hcr hr hs0 hs hh0 hh r s h

/-- ... and it is the model's `Dir.buffer`: HTP_ERROR exactly when the model refuses (so `C10_buffer_bound` / `C10_buffer_all_or_nothing` and the
    whole-history bound above speak about this code), for the request function (`skipEmpty = true`) and its response twin (`false`) -/
theorem C10_translated_buffer_is_model (fuel : Nat) (d : Dir) (hard : Nat)
    (hc0 : 0 ≤ d.consume) (hcr : d.consume ≤ d.read) (hrl : d.read ≤ d.cur.length) (hl : d.cur.length < 4611686018427387904)
    (hbl : ∀ b, d.buf = some b → b.length < 4611686018427387904)
    (hhl : ∀ h, d.header = some h → h.length < 4611686018427387904) :
    (((Htp.Gen.C.htp_connp_req_buffer fuel (connp_in_current_data := d.cur) (connp_in_current_data_null := if d.curNull then 1 else 0)
        (connp_in_buf := match d.buf with | some b => Htp.CSem.memOf b | none => [])
        (connp_in_buf_null := if d.buf.isNone then 1 else 0) (connp_in_buf_size := ((d.buf.map (·.length)).getD 0 : Nat))
        (connp_in_current_consume_offset := d.consume) (connp_in_current_read_offset := d.read)
        (connp_in_header_len := ((d.header.map (·.length)).getD 0 : Nat)) (connp_in_header_null := if d.header.isNone then 1 else 0)
        (connp_in_tx_cfg_field_limit_hard := hard) (alloc_ok := 1)).map (·.1) = some (-1)) ↔ d.buffer hard true = none) ∧
    (((Htp.Gen.C.htp_connp_res_buffer fuel (connp_out_current_data := d.cur) (connp_out_current_data_null := if d.curNull then 1 else 0)
        (connp_out_buf := match d.buf with | some b => Htp.CSem.memOf b | none => [])
        (connp_out_buf_null := if d.buf.isNone then 1 else 0) (connp_out_buf_size := ((d.buf.map (·.length)).getD 0 : Nat))
        (connp_out_current_consume_offset := d.consume) (connp_out_current_read_offset := d.read)
        (connp_out_header_len := ((d.header.map (·.length)).getD 0 : Nat)) (connp_out_header_null := if d.header.isNone then 1 else 0)
        (connp_out_tx_cfg_field_limit_hard := hard) (alloc_ok := 1)).map (·.1) = some (-1)) ↔ d.buffer hard false = none) :=
  ⟨Htp.CFuns.htp_connp_req_buffer_error_iff fuel d hard hc0 hcr hrl hl hbl hhl,
   Htp.CFuns.htp_connp_res_buffer_error_iff fuel d hard hc0 hcr hrl hl hbl hhl⟩

/-- **C10 (max_tx over whole call histories)**: with a non-zero `max_tx`, after ANY list of calls on a freshly created connection parser - request
    and response chunks in any interleaving (also gaps and NULL chunks: the data functions are covered for every data / len), open,
    req_close, close, tx_freed, any callback policy - and after every prefix of it, the connection holds at most `max_tx + 1` transaction slots.
    Creation (`txCreate`, reached from REQ_IDLE and from the response side's unmatched-response path) is the only operation that appends to the
    list and it refuses once more than `max_tx` are held; every other function of both directions keeps the length or shrinks it
    (`Lemmas/TxCount.lean`: the `GrowB` coordinate of the walk in `Lemmas/ConnSweep.lean`, `ConnSweepOut.lean`). -/
theorem C10_history_maxtx (cfg : Cfg) (hm : 0 < cfg.maxTx) (calls pre : List Call) (hp : pre <+: calls) :
    (runCalls cfg {} pre).txs.length ≤ cfg.maxTx + 1 :=
  history_txs_bounded_fresh_prefix cfg hm calls pre hp

/-- non-vacuity: with max_tx = 2 four pipelined requests in one chunk leave exactly 3 slots (the fourth creation is refused) -/
example :
    let four := (b!"GET / HTTP/1.1\r\nHost: h\r\n\r\nGET / HTTP/1.1\r\nHost: h\r\n\r\nGET / HTTP/1.1\r\nHost: h\r\n\r\nGET / HTTP/1.1\r\nHost: h\r\n\r\n")
    (runCalls { maxTx := 2 } {} [.open, .req four]).txs.length = 3 := by decide +kernel

/-- **C10 (the repetition budget over whole call histories)**: after ANY history of calls on a freshly created connection parser, for every
    transaction it holds, the two header-repetition counters are at most HTP_MAX_HEADERS_REPETITIONS - the only writers are the two header
    insertion functions, through `addHeader`, which `C10_repetitions_capped` bounds; every other function of both directions leaves the
    counters alone (`Lemmas/TxsRel.lean`, `RepInv.lean`). So the number of merges a repeated field can accumulate in one transaction is
    bounded for every stream, chunking and interleaving. -/
theorem C10_history_repetitions_capped (cfg : Cfg) (calls : List Call) (t : Tx) (ht : some t ∈ (runCalls cfg {} calls).txs) :
    t.reqHeaderRepetitions ≤ MAX_HEADERS_REPETITIONS ∧ t.resHeaderRepetitions ≤ MAX_HEADERS_REPETITIONS :=
  (calls_runCalls cfg {} calls).tx.rep repOK_init t ht

/-- **C10 (the constants are the reviewed ones)**: among them the limits - field limits, repetition and folding caps, list sizes (as
    `C07_constants_pinned`) -/
theorem C10_constants_pinned : Htp.Pinned.ConstantsPinned := Htp.Pinned.constants_pinned

end Htp.C10
