/- C05 — transaction lifecycle. Proved: finalization runs its callback only for a complete transaction and the two completion functions
   guard it; over whole histories the callback log only grows, in order, one entry per callback; of the request progress only that a started
   transaction stays started and within the five phases (`C05_history_req_progress_partial`: that it never goes back is not proved). The
   order of the callbacks against the documented state diagram is left to the correspondence. -/
import HtpModel.Lemmas.Conn
import HtpModel.Lemmas.EventsMono
import HtpModel.Lemmas.ProgMono

namespace Htp.C05
open Htp.Conn Htp.Gen

/-- **C05 (transaction-complete only when both sides are complete)**: htp_tx_finalize runs the TRANSACTION_COMPLETE
    callback only for a transaction whose request and response progress are both COMPLETE; otherwise it runs no callback
    and changes nothing. -/
theorem C05_finalize_only_when_complete (cfg : Cfg) (uid : Nat) (c : Conn) (t : Tx)
    (ht : c.findTx uid = some t) (hn : t.isComplete = false) :
    txFinalize cfg uid c = (c, .ok) := by
  simp [txFinalize, ht, hn]

/-- a destroyed (or never created) transaction gets no TRANSACTION_COMPLETE either -/
theorem C05_finalize_absent (cfg : Cfg) (uid : Nat) (c : Conn) (ht : c.findTx uid = none) :
    txFinalize cfg uid c = (c, .ok) := by
  simp [txFinalize, ht]

/-- when it does run, exactly one event is logged: TRANSACTION_COMPLETE with both progress values at COMPLETE (5) -/
theorem C05_finalize_event (cfg : Cfg) (uid : Nat) (c : Conn) (t : Tx)
    (ht : c.findTx uid = some t) (hc : t.isComplete = true) :
    ∃ e, (txFinalize cfg uid c).1.events = e :: c.events ∧ e.hook = .transactionComplete ∧
      e.reqProgress = 5 ∧ e.resProgress = 5 := by
  have hp : t.reqProgress = 5 ∧ t.resProgress = 5 := by
    simp [Tx.isComplete] at hc; exact hc
  have hlog := (runCallback_log .transactionComplete (some uid) none false c 0 false).1
  refine ⟨eventOf .transactionComplete (some uid) none false c 0 false, ?_, rfl, ?_, ?_⟩
  · unfold txFinalize
    simp only [ht, hc, Bool.not_true, Bool.false_eq_true, if_false]
    unfold R.andThen
    by_cases hrc : ((runCallback Hook.transactionComplete (some uid) none false c).2 == Rc.ok) = true
    · simp only [hrc, if_true]
      by_cases had : cfg.txAutoDestroy = true
      · simp only [had, if_true]
        cases (runCallback Hook.transactionComplete (some uid) none false c).1.findTx uid <;> simp [hlog]
      · simp only [had]
        simpa using hlog
    · simp only [hrc]
      simpa using hlog
  · simp [eventOf, ht, hp.1]
  · simp [eventOf, ht, hp.2]

/-- **C05 (request-complete is guarded)**: for a transaction whose request side is already COMPLETE, htp_tx_state_request_complete runs
    neither the end-of-body delivery nor the REQUEST_COMPLETE callback again: it only moves the request side on and tries to finalize. -/
theorem C05_request_complete_guard (cfg : Cfg) (uid : Nat) (c : Conn) (t : Tx)
    (ht : c.findTx uid = some t) (hp : t.reqProgress = 5) :
    txStateRequestComplete cfg uid c =
      (let c1 := { c with inState := if t.is09 then ReqState.ignoreDataAfter09 else ReqState.idle }
       ({ (txFinalize cfg uid c1).1 with inn := { (txFinalize cfg uid c1).1.inn with tx := none } }, Rc.ok)) := by
  unfold txStateRequestComplete
  simp [ht, hp, R.andThen]

/-- **C05 (response-complete is guarded)**: for a transaction whose response side is already COMPLETE, htp_tx_state_response_complete_ex
    delivers neither the end-of-body marker nor RESPONSE_COMPLETE again. -/
theorem C05_response_complete_guard (cfg : Cfg) (uid : Nat) (c : Conn) (t : Tx)
    (ht : c.findTx uid = some t) (hp : t.resProgress = 5) :
    txStateResponseCompleteEx cfg uid c =
      (if c.inn.status == STREAM_DATA_OTHER && c.inn.tx == c.out.tx then (c, Rc.dataOther) else
       if c.outDataOtherAtTxEnd then ({ c with outDataOtherAtTxEnd := false }, Rc.dataOther) else
       txFinalize cfg uid c >>? fun c => ({ c with out := { c.out with tx := none }, outState := ResState.idle }, Rc.ok)) := by
  unfold txStateResponseCompleteEx
  simp [ht, hp, R.andThen]

/-- **C05 (the callback log is append-only, over whole histories)**: the lifecycle clauses - start, line, headers, body data, trailer, complete in
    that order, each at most once, nothing after transaction-complete - are statements about the sequence of callbacks delivered. That sequence
    is never rewritten: for every history of calls (request and response chunks in any interleaving, gaps, close, req_close, open, tx_freed, any
    configuration and callback policy) and every prefix of it, what was delivered after the prefix is still there after the whole history, in
    the same order, with newer callbacks added at the end only; and on a fresh connection parser the number of callbacks run equals the
    length of the log (`Lemmas/EventsMono.lean`, `ConnSweep.lean`: only `runCallback` writes the log, one entry per callback, proved for every
    function of both directions). The order and at-most-once clauses themselves are decided on the implementation's log by the lifecycle
    Monitor (they are false at the recorded findings S2, S24, S25, S26). -/
theorem C05_history_log_append_only (cfg : Cfg) (c0 : Conn) (calls pre : List Call) (hp : pre <+: calls) :
    (∃ new, (runCalls cfg c0 calls).events = new ++ (runCalls cfg c0 pre).events ∧
            (runCalls cfg c0 calls).cbCount = (runCalls cfg c0 pre).cbCount + new.length) ∧
    (∀ e1 e2, [e1, e2].Sublist (runCalls cfg c0 pre).events → [e1, e2].Sublist (runCalls cfg c0 calls).events) ∧
    (runCalls cfg {} calls).cbCount = (runCalls cfg {} calls).events.length :=
  ⟨history_events_prefix cfg c0 hp, fun _ _ h => h.trans (history_events_prefix cfg c0 hp).sublist, history_cbCount_eq_length cfg calls⟩

/-- non-vacuity: a GET and its 200 response with a 5-byte body deliver 15 callbacks -/
example :
    (runCalls {} {} [.open, .req (b!"GET / HTTP/1.1\r\nHost: h\r\n\r\n"), .res (b!"HTTP/1.1 200 OK\r\nContent-Length: 5\r\n\r\nhello")]).cbCount = 15 := by
  decide +kernel

/-- **C05 (request progress over whole histories, PARTIAL)**: the full statement - "the request progress of a transaction never goes backwards, for
    every call history" - is NOT proved: several writers set a constant without a guard on the current value (REQ_PROTOCOL writes HEADERS,
    REQ_BODY_DETERMINE writes BODY, ...), so monotonicity needs an invariant that bounds the progress of the current transaction by the parser
    state, which was not established (no history on which the progress goes backwards was found either; on the implementation that is what the
    Monitor's `req-progress-back` rule decides - it reported seeded change C05e). What IS proved for every history and prefix
    (`Lemmas/ProgMono.lean`): a transaction that has started stays started, and its phase number stays within 1..5. -/
theorem C05_history_req_progress_partial (cfg : Cfg) (policy : List (Nat × CbAction)) (calls pre : List Call) (hp : pre <+: calls)
    (u : Nat) (t t' : Tx) (h1 : (runCalls cfg { policy := policy } pre).findTx u = some t)
    (h2 : (runCalls cfg { policy := policy } calls).findTx u = some t') :
    (1 ≤ t.reqProgress → 1 ≤ t'.reqProgress) ∧ (t.reqProgress ≤ 5 → t'.reqProgress ≤ 5) :=
  have := (history_req_progress_monotone_partial cfg policy calls pre hp u t t' h1 h2).1
  ⟨by omega, by omega⟩

end Htp.C05
