/- C15 — urlencoded parameters. Proved for every input and chunking, for the parser as it is created (flags 0, expected status 0; the lemmas of Lemmas/Urlenc.lean hold from any
   state with `Inv s` and `s.complete = false`): pairs, flags and expected status do not depend on the cut, and the pairs are
   those of the reference rule (split on '&', first '=', decode); a second finalize adds nothing outside the value state; the hex table is the reviewed one.
   Flags and expected status have no reference rule and are left to the correspondence. -/
import HtpModel.Lemmas.UrlencRef
import HtpModel.Lemmas.Decode

namespace Htp.C15
open Htp.Urlenc Htp.Gen

/-- what the byte-at-a-time machine reports for a whole byte string -/
def runA (cfg : DecoderCfg) (bytes : Bytes) : List (Bytes × Bytes) × Nat × Int :=
  let a := finalizeA cfg (bytes.foldl (stepA cfg) {})
  (a.params.reverse, a.flags, a.status)

/-- **C15 (chunking)**: for every decoder configuration and every way of cutting the input into chunks
    (any number of chunks, empty chunks included), the reported pairs, flags and expected status are those
    of the byte-at-a-time machine run on the concatenation — hence identical for every chunking. -/
theorem C15_chunking (cfg : DecoderCfg) (chunks : List Bytes) :
    run cfg chunks = runA cfg chunks.flatten := by
  unfold run runA
  have hi : Inv ({} : S) := by intro p hp; simp at hp
  have h1 := feed_chunks_abs cfg chunks {} hi rfl
  have h2 := finalize_abs cfg (chunks.foldl (feed cfg) {}) h1.2.1
  have habs0 : absS ({} : S) [] = ({} : A) := rfl
  rw [habs0] at h1
  rw [← h1.1, ← h2]
  simp [absS]

theorem C15_chunking_invariance (cfg : DecoderCfg) (c1 c2 : List Bytes) (h : c1.flatten = c2.flatten) :
    run cfg c1 = run cfg c2 := by
  rw [C15_chunking, C15_chunking, h]

/-- **C15 (reference rule)**: for every decoder configuration and every chunking of every byte string, the reported name/value pairs
    are exactly those of the reference rule applied to the concatenation - split on '&', split each piece at its first '=', drop
    only a final empty piece, decode name and value with the configured decoder - in order, empty names and values included. -/
theorem C15_reference (cfg : DecoderCfg) (chunks : List Bytes) : (run cfg chunks).1 = refPairs cfg chunks.flatten := by
  rw [C15_chunking]
  unfold runA
  simp only
  have hi : InvA ({} : A) := ⟨rfl, by intro b hb; simp at hb, by intro _ b hb; simp at hb, by intro h; simp at h⟩
  have := machine_ref cfg chunks.flatten {} hi
  simpa [curA] using this

/-- the reference rule on a concrete string: a plain pair, an encoded value, an empty piece in the middle (kept), a name without
    '=', an empty name, an empty value, and a final '&' (the empty piece after it is dropped) -/
example : refRaw (b!"a=1&b=%41&&c&=d&e=&") =
    [((b!"a"), (b!"1")), ((b!"b"), (b!"%41")), ([], []), ((b!"c"), []), ([], (b!"d")), ((b!"e"), [])] := by decide +kernel

/-- calling finalize a second time changes nothing that is reported (params, flags, status) -/
theorem C15_finalize_twice (cfg : DecoderCfg) (a : A) :
    let f := finalizeA cfg a
    (finalizeA cfg f).params = f.params ∧ (finalizeA cfg f).flags = f.flags ∧ (finalizeA cfg f).status = f.status ∨
    f.state = .value := by
  intro f
  by_cases hv : f.state = .value
  · exact Or.inr hv
  · left
    have hk : f.state = .key := by cases h : f.state <;> simp_all
    have hp : f.pend = [] := (closeA_frame cfg _ none).1
    unfold finalizeA closeA fieldA toS ofS
    simp [hk, hp]

/-- "a=1&b=%41&&c&=d&e=" in three chunks ("a=", "1&b=%41&&c&", "=d&e=") -/
example : (run {} [[0x61, 0x3d], [0x31, 0x26, 0x62, 0x3d, 0x25, 0x34, 0x31, 0x26, 0x26, 0x63, 0x26],
                   [0x3d, 0x64, 0x26, 0x65, 0x3d]]).1 =
    [([0x61], [0x31]), ([0x62], [0x41]), ([], []), ([0x63], []), ([], [0x64]), ([0x65], [])] := by decide +kernel

/-- the hex-digit arithmetic of `x2c` (htp_util.c): `(c >= 'A' ? ((c & 0xdf) - 'A') + 10 : (c - '0'))`, in unsigned char -/
def x2cDigit (b : UInt8) : UInt8 := if b ≥ 0x41 then ((b &&& 0xdf) - 0x41) + 10 else b - 0x30

/-- **C15 (the escape table is the documented arithmetic)**: the statement of `C12_x2c_table` (explained there); the urlencoded parser
    decodes with the same two tables. -/
theorem C15_x2c_table : ∀ b : UInt8, Htp.Gen.x2cLo b = x2cDigit b ∧ Htp.Gen.x2cHi b = x2cDigit b * 16 :=
  Htp.Decode.x2c_table

example : Htp.Gen.x2cHi 0x34 + Htp.Gen.x2cLo 0x31 = 0x41 ∧ Htp.Gen.x2cSeparable = true := by decide

end Htp.C15
