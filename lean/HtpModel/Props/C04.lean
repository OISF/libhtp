/- C04 — responses are paired with their requests, in order, under pipelining. Proved: transaction creation appends with the next uid and
   raises the pipelining indicator exactly when it should; RES_IDLE attaches to the slot `out_next_tx_index` and advances it; over whole
   histories the index never passes the end of the list and the indicator is never cleared. Which transaction a response ends up on, end
   to end, is left to the tagged-exchange oracle. -/
import HtpModel.Lemmas.Conn
import HtpModel.Lemmas.OutIndex

namespace Htp.C04
open Htp.Conn Htp.Gen

/-- **C04 (pipelining indicator)**: creating a transaction raises HTP_CONN_PIPELINED exactly when more transactions exist than
    responses have been started (`size > out_next_tx_index`), and never clears it. -/
theorem C04_pipelined_flag (cfg : Cfg) (c : Conn) :
    (txCreate cfg c).1.connFlags =
      (if (c.txs.length : Int) > c.outNextTxIndex then setFlag c.connFlags CONN_PIPELINED else c.connFlags) := by
  unfold txCreate
  simp only
  split <;> rfl

/-- the new transaction goes to the end of the list (arrival order) with the next unique id, and becomes the request side's
    current transaction; nothing else in the list changes -/
theorem C04_create_appends (cfg : Cfg) (c : Conn) (uid : Nat) (h : (txCreate cfg c).2 = some uid) :
    uid = c.nextUid ∧ ∃ t : Tx, t.uid = c.nextUid ∧ t.index = c.txs.length ∧ (txCreate cfg c).1.txs = c.txs ++ [some t] ∧
      (txCreate cfg c).1.inn.tx = some c.nextUid ∧ (txCreate cfg c).1.outNextTxIndex = c.outNextTxIndex := by
  unfold txCreate at h ⊢
  simp only at h ⊢
  cases hm : (decide (cfg.maxTx > 0) && decide (c.txs.length > cfg.maxTx))
  · simp only [hm, Bool.false_eq_true, if_false] at h ⊢
    simp only [Option.some.injEq] at h
    refine ⟨h.symm, ⟨{ uid := c.nextUid, index := c.txs.length, portNumber := 0 }, ?_⟩⟩
    simp
  · simp [hm] at h

/-- **C04 (index)**: when the response side leaves RES_IDLE and the slot `out_next_tx_index` holds a transaction, the response
    attaches to exactly that transaction and the index advances by one — whatever the RESPONSE_START callback does. -/
theorem C04_response_attaches (cfg : Cfg) (c : Conn) (t : Tx)
    (hav : c.out.read < c.out.len) (hidx : 0 ≤ c.outNextTxIndex)
    (hslot : (c.txs[c.outNextTxIndex.toNat]?).join = some t) :
    (resIdle cfg c).1.out.tx = some t.uid ∧ (resIdle cfg c).1.outNextTxIndex = c.outNextTxIndex + 1 := by
  unfold resIdle
  have hge : ¬ (c.out.read ≥ c.out.len) := by omega
  have hneg : ¬ (c.outNextTxIndex < 0) := by omega
  simp only [hge, if_false, hneg, hslot]
  have h := txStateResponseStart_attach t.uid
    { c with outNextTxIndex := c.outNextTxIndex + 1,
             out := { c.out with tx := some t.uid, contentLength := -1, bodyDataLeft := -1 } }
  exact h

/-- **C04 (the response side never runs ahead of the list; PIPELINED is sticky - over whole histories)**: for every history of calls on a fresh
    connection parser (request and response chunks in any interleaving, gaps, close, req_close, open, tx_freed, any configuration and callback
    policy) and every prefix of it, `out_next_tx_index` - the list position of the transaction the next response will be attached to - is at
    most the length of the transaction list: a response is attached to a transaction that has arrived, in arrival order, or to one the response
    side creates itself at the end of the list. The index moves by one step per response started and is decreased only by htp_connp_tx_freed,
    by exactly the number of slots it drops (`resIdle_index_step`, `txFreed_exact`); the request side never writes it. And the pipelining
    indicator of the connection, once set, is never cleared (`Lemmas/OutIndex.lean`). The LOWER bound 0 <= index is not an invariant of the
    functions taken one by one (`txFreed` on a made-up state with an empty slot in front of the index goes negative) and is left to the
    correspondence. Which transaction a response is attached to, end to end, is decided by the tagged-exchange oracle on the implementation. -/
theorem C04_history_out_index (cfg : Cfg) (calls pre : List Call) (hp : pre <+: calls) :
    (runCalls cfg {} pre).outNextTxIndex ≤ ((runCalls cfg {} pre).txs.length : Int) ∧
    (hasFlag (runCalls cfg {} pre).connFlags CONN_PIPELINED = true → hasFlag (runCalls cfg {} calls).connFlags CONN_PIPELINED = true) :=
  ⟨history_out_index_inv cfg {} pre idxInv_fresh, (calls_prefix cfg {} hp).idx.pip⟩

end Htp.C04
