/- C01 — memory safety and clean teardown. Proved for every input: the index and reference disciplines the C code relies on - the in-place
   rewriters never write ahead of their read position, the cursors of a direction stay inside its chunk through every state function and every
   whole data call of either direction, a destroyed transaction is unlinked, no parser reference dangles after any call history - and the
   in-bounds reads of the translated leaf functions. Heap lifetimes, allocation failure (C18) and the sanitizer verdicts are left to the
   instrumented correspondence harness. -/
import HtpModel.Lemmas.Decode
import HtpModel.Lemmas.Segment
import HtpModel.Lemmas.CursorInv
import HtpModel.Lemmas.BufInvOut
import HtpModel.Lemmas.CFunsCmp
import HtpModel.Lemmas.CFunsSearch
import HtpModel.Lemmas.CFunsLine
import HtpModel.Lemmas.CFunsNum
import HtpModel.Lemmas.CFunsNormalize
import HtpModel.Lemmas.CFunsRing
import HtpModel.Lemmas.RefsValidHist

namespace Htp.C01
open Htp Htp.Conn Htp.Gen Htp.Decode

/-- **C01 (in-place rewriting)**: for every prefix `pre` of the input, what the decoder has written after reading `pre` is no
    longer than `pre` (stated through the loop functions started on `pre`; `pathLoop`/`urlLoop`/`utf8DecLoop` process their input
    left to right and their state after a prefix is their result on that prefix). -/
theorem C01_inplace_write_behind_read (cfg : DecoderCfg) (pre : Bytes) (flags : Nat) (status : Int) :
    (decodePath cfg pre flags status).1.length ≤ pre.length ∧
    (urldecodeEx cfg pre flags status).1.length ≤ pre.length ∧
    (utf8DecodePath cfg pre flags status).1.length ≤ pre.length ∧
    (normalizePath pre).length ≤ pre.length :=
  ⟨decodePath_len .., urldecodeEx_len .., utf8DecodePath_len .., normalizePath_len _⟩

/-- **C01 (cursor stays in the chunk)**: a byte copy (IN_COPY_BYTE_OR_RETURN / OUT_COPY_BYTE_OR_RETURN) on a direction whose
    cursors are inside its chunk reads an index below the chunk length and leaves the cursors inside the chunk. -/
theorem C01_cursor_in_chunk (d d' : Dir) (b : UInt8) (hs : d.Sane) (h : d.copyByte = some (d', b)) :
    d'.Sane ∧ d.read.toNat < d.cur.length ∧ d.cur[d.read.toNat]? = some b := by
  have h3 := seg_copyByte_pending d d' b hs h
  refine ⟨h3.2.1, ?_, h3.2.2⟩
  have := h3.2.2
  by_cases hlt : d.read.toNat < d.cur.length
  · exact hlt
  · rw [List.getElem?_eq_none (by omega)] at this
    simp at this

/-- **C01 (buffering copies chunk bytes only)**: the piece that htp_connp_req_buffer / res_buffer appends is a slice of the
    current chunk between the consume and read cursors - never longer than their distance. -/
theorem C01_buffer_takes_chunk_bytes_only (d : Dir) : (sliceCur d d.consume d.read).length ≤ (d.read - d.consume).toNat :=
  sliceCur_len_le d _ _

theorem findTx_destroyTx (uid : Nat) (c : Conn) : (destroyTx uid c).findTx uid = none := by
  unfold destroyTx Conn.findTx
  simp only
  induction c.txs with
  | nil => rfl
  | cons o rest ih =>
    cases o with
    | none => simp only [List.map_cons, List.find?]; exact ih
    | some x =>
      by_cases h : (x.uid == uid) = true
      · simp only [List.map_cons, h, if_true, List.find?]; exact ih
      · have h' : (x.uid == uid) = false := by simpa using h
        simp only [List.map_cons, h', Bool.false_eq_true, if_false, List.find?]; exact ih

/-- **C01 (destroy unlinks)**: after htp_tx_destroy the transaction is in no slot of the connection and neither direction of
    the parser refers to it. -/
theorem C01_destroy_unlinks (uid : Nat) (c : Conn) :
    (destroyTx uid c).findTx uid = none ∧ (destroyTx uid c).inn.tx ≠ some uid ∧ (destroyTx uid c).out.tx ≠ some uid := by
  refine ⟨findTx_destroyTx uid c, ?_, ?_⟩
  · unfold destroyTx
    simp only
    split
    · simp
    · rename_i h; simpa using h
  · unfold destroyTx
    simp only
    split
    · simp
    · rename_i h; simpa using h

/-- **C01 (the cursors stay inside the chunk, every state function)**: a data call stores a chunk with the cursors at its start
    (`wf_reqStoreChunk`), and each of the fourteen request state functions - whatever it answers, for every chunk, buffer content, transaction
    list and callback policy - leaves 0 <= consume <= read <= len <= |chunk|, so every `data[offset]` of the next pass has offset < len.
    The two counted body states need a non-negative amount owed (they are entered with a positive one; a negative amount would be
    converted to a huge size_t in C: that the Content-Length parser never lets one through is `clOK_along_call`, Lemmas/ClInv.lean). -/
theorem C01_req_state_cursors_in_chunk (cfg : Cfg) (c : Conn) (w : WFCur c.inn)
    (ho1 : c.inState = ReqState.bodyIdentity → 0 ≤ c.inn.bodyDataLeft)
    (ho2 : c.inState = ReqState.bodyChunkedData → 0 ≤ c.inn.chunkedLength) :
    WFCur (reqStateFn cfg c).1.inn ∧ WFCur (reqHandleStateChange (reqStateFn cfg c).1).1.inn :=
  ⟨wfIn_reqStateFn cfg c w ho1 ho2, wfIn_reqHandleStateChange _ (wfIn_reqStateFn cfg c w ho1 ho2)⟩

/-- the state a data call starts its loop in -/
theorem C01_req_chunk_stored_wellformed (d : Bytes) (c : Conn) (h : (d.length : Int) < 18446744073709551616) :
    WFCur (reqStoreChunk (some d) d.length c).inn := wf_reqStoreChunk d c h

/-- non-vacuity: a fresh chunk in the request-line state satisfies the hypotheses, and the line state reads it to its end -/
example :
    let c : Conn := reqStoreChunk (some (b!"GET /")) 5 { inState := .line }
    WFCur c.inn ∧ (reqStateFn {} c).1.inn.read = 5 := by
  refine ⟨wf_reqStoreChunk _ _ (by decide), by decide⟩

/-- **C01 (the cursors stay inside the chunk, whole loop of a request data call)**: from the well-formed chunk a data call stores, the loop of
    htp_connp_req_data - any number of passes, any state functions, any callback policy - returns with 0 <= consume <= read <= len <= |chunk|,
    provided no pass finds a negative amount owed in a counted body state (`CallReach` names the states the loop passes through). -/
theorem C01_req_call_cursors_in_chunk (cfg : Cfg) (fuel : Nat) (d : Bytes) (c : Conn) (hs : (d.length : Int) < 18446744073709551616)
    (hb : inBufLen c ≤ cfg.fieldLimitHard)
    (ho : ∀ c', CallReach cfg (reqStoreChunk (some d) d.length c) c' → OwedOK c') :
    WFCur (reqDriverLoop cfg false fuel (reqStoreChunk (some d) d.length c)).1.inn :=
  (reqDriverLoop_wfb cfg fuel _ _ CallReach.start ⟨wf_reqStoreChunk d c hs, hb⟩ ho).1

/-- **C01 (response direction, whole loop of a data call)**: from the well-formed chunk a response data call stores, the loop of
    htp_connp_res_data returns with 0 <= consume, 0 <= read <= len <= |chunk| - every `data[read]` of a later pass is inside the chunk -
    provided no pass finds a negative amount owed in a counted body state. (`consume <= read` is NOT claimed on this side: after an
    invalid chunk-length line or a probed line in RES_FINALIZE the read offset is moved back.) -/
theorem C01_res_call_cursors_in_chunk (cfg : Cfg) (fuel : Nat) (d : Bytes) (c : Conn) (hs : (d.length : Int) < 18446744073709551616)
    (hb : outBufLen c ≤ cfg.fieldLimitHard)
    (ho : ∀ c', CallReachO cfg (resStoreChunk (some d) d.length c) c' → OwedOKO c') :
    WFO (resDriverLoop cfg false fuel (resStoreChunk (some d) d.length c)).1.out :=
  (resDriverLoop_wfbo cfg fuel _ _ CallReachO.start (wfbo_resStoreChunk _ d c hs hb) ho).1

/-- **C01 (the code itself: no read or write outside the buffers handed in)**: in the semantics of the translated C functions
    (`HtpModel/CSem.lean`) a read `p[i]` or a write outside the array the caller handed in is UNDEFINED (`none`), and so is a loop that
    does not finish within its fuel. Each conjunct says that the function, translated from the current source, is DEFINED on every input
    (arrays below 2^63 bytes, exact lengths): the comparison, the nested search loop, htp_chomp reading from the end of the buffer
    (`data[*len - 1]`), the number parser, and the in-place dot-segment remover, which reads and WRITES one shared buffer. These are
    corollaries of the equalities with the model (C17_translated_*, C12_translated_normalize); they are the part of C01 that is proved about
    the code rather than observed under the sanitizers. -/
theorem C01_translated_reads_in_bounds (d1 d2 : Bytes) (h1 : d1.length < 2147483648) (h2 : d2.length < 2147483648) :
    (Htp.Gen.C.bstr_util_cmp_mem (d1.length + 1) d1 d2 d1.length d2.length).isSome ∧
    (Htp.Gen.C.bstr_util_mem_index_of_mem (d1.length + 1) d1 d2 d1.length d2.length).isSome ∧
    (Htp.Gen.C.htp_chomp (d1.length + 1) d1 d1.length).isSome ∧
    (Htp.Gen.C.htp_parse_positive_integer_whitespace (d1.length + 1) d1 d1.length 10).isSome ∧
    (Htp.Gen.C.htp_normalize_uri_path_inplace (2 * d1.length + 3) (Htp.CSem.memOf d1) d1.length).isSome := by
  have some_of_map : ∀ {α β : Type} {o : Option α} {f : α → β} {v : β}, o.map f = some v → o.isSome := by
    intro α β o f v h; cases o with
    | none => simp at h
    | some _ => rfl
  refine ⟨some_of_map (Htp.CFuns.bstr_util_cmp_mem_eq d1 d2 (by omega) (by omega) _ (Nat.lt_succ_self _)),
          some_of_map (Htp.CFuns.bstr_util_mem_index_of_mem_eq d1 d2 (by omega) _ (Nat.lt_succ_self _)),
          some_of_map (Htp.CFuns.htp_chomp_eq d1 (by omega) _ (Nat.lt_succ_self _)),
          some_of_map (List.append_nil d1 ▸ Htp.CFuns.htp_parse_positive_integer_whitespace_eq d1 [] 10 (by omega) _ (Nat.lt_succ_self _)), ?_⟩
  obtain ⟨s', hs, _⟩ := Htp.CFuns.htp_normalize_uri_path_inplace_eq d1 (by omega) (2 * d1.length + 3) (by omega)
  rw [hs]; rfl

/-- **C01 (ring buffer of the code itself)**: every slot index the translated htp_list_array_* functions compute - `first + idx`, the
    wrapped `idx - (max_size - first)`, `last`, `(first + idx) % max_size`, the two memcpy ranges of the growth step - is inside `elements`
    for every operation sequence from `htp_list_array_create(n)`: the run is defined (no out-of-bounds slot access is reached) and ends in
    a well-formed ring. -/
theorem C01_translated_ring_in_bounds (n : Nat) (hn : 0 < n) (ops : List Htp.CFuns.COp) (hK : n + ops.length < 2305843009213693952) :
    ∃ f, (Htp.CFuns.runC (Htp.CFuns.fieldsOf (Htp.Ring.create n)) ops).map (·.1) = some f ∧ Htp.Ring.WF (Htp.CFuns.ringOf f) := by
  obtain ⟨f, h1, h2, _⟩ := Htp.CFuns.cring_sim_fresh n hn ops (fun _ _ => by unfold Htp.CFuns.COp.ok; split <;> trivial) hK
  exact ⟨f, by rw [h1]; rfl, h2⟩

/-- **C01 (no dangling transaction reference, over whole histories)**: for a connection parser from its creation - any configuration, any callback
    policy (callbacks may destroy transactions, auto-destroy at transaction-complete included), any history of calls (request and response chunks in
    any interleaving, gaps, close, req_close, open, tx_freed) and after every prefix of it - `in_tx` and `out_tx` are each NULL or name a
    transaction that is still in the connection's list, and a transaction that is no longer in the list is named by neither. Proof: the
    invariant `RefsInv` (references valid; stored uids pairwise distinct and below `nextUid`, so a fresh transaction disturbs no other) is kept by
    every function of both directions - `destroyTx` clears the references it invalidates, the response side takes `out_tx` from a live slot or
    from the transaction it has just created (`Lemmas/RefsValid.lean`, `RefsValidHist.lean`). This is the part of "no use after free of a
    transaction" that lives in the logic; heap lifetimes of the C objects themselves remain with the sanitizer runs. -/
theorem C01_history_refs_valid (cfg : Cfg) (policy : List (Nat × CbAction)) (allow : Bool) (calls pre : List Call) (hp : pre <+: calls) :
    let c := runCalls cfg { policy := policy, allowCbDestroy := allow } pre
    RefsValid c ∧ (∀ u, c.findTx u = none → c.inn.tx ≠ some u ∧ c.out.tx ≠ some u) := by
  intro c
  have h : RefsInv c := history_refs_valid_prefix cfg _ calls pre refsInv_init hp
  refine ⟨h.1, fun u hn => ⟨fun e => ?_, fun e => ?_⟩⟩
  · have := h.1.1 u e
    rw [hn] at this; simp at this
  · have := h.1.2 u e
    rw [hn] at this; simp at this

end Htp.C01
