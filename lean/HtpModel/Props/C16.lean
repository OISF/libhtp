/- C16 — CONNECT, upgrade and tunnel handling. Proved: a direction in tunnel mode answers every non-empty data call with TUNNEL, silently, and
   stays so through any history without a close (a close leaves it: witness; over histories the silence is stated for the request direction,
   the response twin is `history_tunnel_res_silent`, Lemmas/HistoryTunnel.lean); after CONNECT the request side waits, consuming nothing,
   until the response has passed its status line. Which responses switch to tunnel mode is left to the correspondence. -/
import HtpModel.Lemmas.HistoryTunnel

namespace Htp.C16
open Htp.Conn Htp.Gen

/-- **C16 (tunnel mode is absorbing and silent, request direction)**: once the request direction is in TUNNEL, a data call with any
    bytes returns TUNNEL, runs no callback, creates no transaction and changes no transaction; only the byte counter and the
    chunk bookkeeping advance. -/
theorem C16_tunnel_req (cfg : Cfg) (c : Conn) (d : Bytes) (hlen : 0 < d.length)
    (ht : c.inn.status = STREAM_TUNNEL) (hg : c.inn.tx.isSome = true ∨ c.inState = .idle) :
    (reqData cfg (some d) d.length c).2 = STREAM_TUNNEL ∧ (reqData cfg (some d) d.length c).1.events = c.events ∧
    (reqData cfg (some d) d.length c).1.txs = c.txs ∧ (reqData cfg (some d) d.length c).1.inn.status = STREAM_TUNNEL ∧
    (reqData cfg (some d) d.length c).1.inDataCounter = c.inDataCounter + d.length :=
  tunnel_req_call cfg c d hlen ht hg

theorem C16_tunnel_res (cfg : Cfg) (c : Conn) (d : Bytes) (hlen : 0 < d.length)
    (ht : c.out.status = STREAM_TUNNEL) (hg : c.out.tx.isSome = true ∨ c.outState = .idle) :
    (resData cfg (some d) d.length c).2 = STREAM_TUNNEL ∧ (resData cfg (some d) d.length c).1.events = c.events ∧
    (resData cfg (some d) d.length c).1.txs = c.txs ∧ (resData cfg (some d) d.length c).1.out.status = STREAM_TUNNEL ∧
    (resData cfg (some d) d.length c).1.outDataCounter = c.outDataCounter + d.length :=
  tunnel_res_call cfg c d hlen ht hg

/-- **C16 (suspension after CONNECT)**: while the response to the CONNECT transaction has not got past its status line, the
    waiting state consumes nothing, runs no callback and asks for the other direction. -/
theorem C16_wait_state (c : Conn) (h : c.inTx.resProgress ≤ 1) :
    reqConnectWaitResponse c = (c, .dataOther) := by
  simp [reqConnectWaitResponse, h]

theorem driver_dataOther (cfg : Cfg) (n : Nat) (c1 : Conn)
    (hstep : reqStateFn cfg c1 = (c1, .dataOther)) (hlt : c1.inn.read < c1.inn.len) :
    reqDriverLoop cfg false (n + 1) c1 = ({ c1 with inn := { c1.inn with status := STREAM_DATA_OTHER } }, STREAM_DATA_OTHER) := by
  unfold reqDriverLoop
  have hge : ¬ (c1.inn.read ≥ c1.inn.len) := by omega
  simp [hstep, hge]

/-- … and at the API: a request data call made in that state with a non-empty chunk returns DATA_OTHER with consumed = 0 and no
    callback; no byte beyond the CONNECT request is taken before the response has been seen. -/
theorem C16_suspended_call (cfg : Cfg) (c : Conn) (d : Bytes) (uid : Nat) (hlen : 0 < d.length)
    (hs : c.inState = .connectWaitResponse) (hst : c.inn.status = STREAM_DATA_OTHER)
    (htx : c.inn.tx = some uid)
    (hp : ∀ c' : Conn, c'.inn.tx = some uid → c'.txs = c.txs → c'.inTx.resProgress ≤ 1) :
    (reqData cfg (some d) d.length c).2 = STREAM_DATA_OTHER ∧ (reqData cfg (some d) d.length c).1.inn.read = 0 ∧
    (reqData cfg (some d) d.length c).1.events = c.events ∧ (reqData cfg (some d) d.length c).1.txs = c.txs := by
  have hl : d.length ≠ 0 := by omega
  -- the chunk is stored, the other direction is woken up: neither touches the transaction, the state or the event log
  obtain ⟨o, hc1⟩ : ∃ o, reqWakeOther (reqStoreChunk (some d) d.length c) = { reqStoreChunk (some d) d.length c with out := o } := by
    exact ⟨_, reqWakeOther_eq _⟩
  generalize hc : ({ reqStoreChunk (some d) d.length c with out := o } : Conn) = c1 at hc1
  have hc1rd : c1.inn.read = 0 := by rw [← hc]; rfl
  have hc1ev : c1.events = c.events := by rw [← hc]; rfl
  have hc1txs : c1.txs = c.txs := by rw [← hc]; rfl
  have hw : reqStateFn cfg c1 = (c1, .dataOther) := by
    unfold reqStateFn
    rw [show c1.inState = .connectWaitResponse by rw [← hc]; exact hs]
    exact C16_wait_state c1 (hp c1 (by rw [← hc]; exact htx) hc1txs)
  have hlt : c1.inn.read < c1.inn.len := by rw [← hc]; show (0 : Int) < (d.length : Int); omega
  have hloop' : reqDriverLoop cfg false (8 * d.length + 64) c1 =
      ({ c1 with inn := { c1.inn with status := STREAM_DATA_OTHER } }, STREAM_DATA_OTHER) :=
    driver_dataOther cfg (8 * d.length + 63) c1 hw hlt
  rw [reqData_eq]
  refine reqDataCore_cases (P := fun r => r.2 = STREAM_DATA_OTHER ∧ r.1.inn.read = 0 ∧ r.1.events = c.events ∧ r.1.txs = c.txs)
    cfg (some d) d.length c (fun h => absurd (hst.symm.trans h) (by decide)) (fun h => absurd (hst.symm.trans h) (by decide))
    (fun h _ => by rw [htx] at h; cases h) (fun h _ => absurd h hl) (fun h _ => absurd (hst.symm.trans h) (by decide)) fun _ _ _ _ => ?_
  rw [hc1, show ((some d : Option Bytes).isNone && decide (d.length > 0)) = false from rfl, hloop']
  exact ⟨rfl, hc1rd, hc1ev, hc1txs⟩

/-- **C16 (tunnel mode is absorbing and silent, over whole histories: forall streams, chunkings, interleavings)**: once a direction is in tunnel
    mode - status TUNNEL, its call guard (a current transaction, or the idle state) and the other direction quiet (TUNNEL, ERROR or STOP, which
    is what the only two writers of TUNNEL, the CONNECT probe and the 101 switch, leave behind: `history_tunnelPair`) - it stays so through ANY
    list of data calls of either direction, htp_connp_open and htp_connp_tx_freed, and every later non-empty data call of that direction returns
    HTP_STREAM_TUNNEL, runs no callback, changes no transaction and counts its bytes (`Lemmas/TunnelPair.lean`, `Lemmas/HistoryTunnel.lean`).
    Closes are excluded: htp_connp_close / htp_connp_req_close overwrite TUNNEL (finding S8-tunnel, `tunnel_not_kept_by_close`). -/
theorem C16_history_tunnel_absorbing (cfg : Cfg) (c0 : Conn) (calls : List Call) (hn : NoClose calls) :
    (TunnelIn c0 → TunnelIn (runCalls cfg c0 calls)) ∧ (TunnelOut c0 → TunnelOut (runCalls cfg c0 calls)) :=
  ⟨history_tunnel_absorbing_req cfg c0 calls hn, history_tunnel_absorbing_res cfg c0 calls hn⟩

theorem C16_history_tunnel_silent (cfg : Cfg) (c0 : Conn) (calls : List Call) (hn : NoClose calls) (h : TunnelIn c0) :
    ∀ pre d, pre ++ [.req d] <+: calls → 0 < d.length →
      (reqData cfg (some d) d.length (runCalls cfg c0 pre)).2 = STREAM_TUNNEL ∧
      (reqData cfg (some d) d.length (runCalls cfg c0 pre)).1.events = (runCalls cfg c0 pre).events ∧
      (reqData cfg (some d) d.length (runCalls cfg c0 pre)).1.txs = (runCalls cfg c0 pre).txs ∧
      (reqData cfg (some d) d.length (runCalls cfg c0 pre)).1.inn.status = STREAM_TUNNEL ∧
      (reqData cfg (some d) d.length (runCalls cfg c0 pre)).1.inDataCounter = (runCalls cfg c0 pre).inDataCounter + d.length :=
  history_tunnel_req_silent cfg c0 calls hn h

/-- **C16 (finding S44: the call guard is needed)**: the status alone is NOT absorbing. From a fresh parser, without any close: an HTTP/0.9
    request line pipelined behind a complete request leaves the request side without a transaction in REQ_IGNORE_DATA_AFTER_HTTP_0_9; a 101
    response then switches both directions to TUNNEL; the next request data call returns HTP_STREAM_ERROR and overwrites TUNNEL, because
    htp_connp_req_data tests "no transaction and not idle" before it tests for tunnel mode. Kernel-evaluated on the model, replayed on the
    library (known finding S44). -/
theorem C16_tunnel_left_counterexample :
    let calls : List Call := [.open, .req (b!"GET /a HTTP/1.1\r\nHost: x\r\n\r\nGET /\n"), .res (b!"HTTP/1.1 101 Switching Protocols\r\n\r\n")]
    let c := runCalls {} {} calls
    NoClose calls ∧ c.inn.status = STREAM_TUNNEL ∧ c.out.status = STREAM_TUNNEL ∧ c.inn.tx = none ∧ c.inState = .ignoreDataAfter09 ∧
    TunnelOut c ∧ ¬ TunnelIn c ∧
    (reqData {} (some (b!"abc")) 3 c).2 = STREAM_ERROR ∧ (reqData {} (some (b!"abc")) 3 c).1.inn.status = STREAM_ERROR := by
  decide +kernel

end Htp.C16
