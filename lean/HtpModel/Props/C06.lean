/- C06 — body bytes delivered exactly once, in order, with correct accounting. Proved for the body sub-machines of the connection model, all
   callback policies: the request direction's identity and chunked states consume exactly min(owed, available) and move on exactly when nothing is owed; over whole histories the four length
   counters of a stored transaction never decrease. `C06_message_len_counterexample` is finding S9 (bytes delivered without being counted); the
   sums against the wire are left to the correspondence. -/
import HtpModel.Lemmas.Conn
import HtpModel.Lemmas.LensMono

namespace Htp.C06
open Htp.Conn Htp.Gen

/-- number of bytes REQ_BODY_IDENTITY takes: min(left, available) -/
def take (c : Conn) : Int :=
  if c.inn.len - c.inn.read ≥ c.inn.bodyDataLeft then c.inn.bodyDataLeft else c.inn.len - c.inn.read

/-- the common end of the two counted body states, after the body callbacks answered `P`: unless they failed, the direction record becomes
    `d'` and the answer is HTP_OK exactly when `z` says nothing is owed any more. The callbacks answer HTP_OK or HTP_ERROR only, so an
    answer of OK or DATA means they did not fail. -/
theorem body_tail (P : R) (d' : Dir) (f : Tx → Tx) (z : Bool) (s : ReqState) (hP : P.2 = .ok ∨ P.2 = .error)
    (r : R) (hr : r = if P.2 != .ok then P else
      if z then ({ ({ P.1 with inn := d' }.modIn f) with inState := s }, .ok) else ({ P.1 with inn := d' }.modIn f, .data))
    (hrc : r.2 = .ok ∨ r.2 = .data) : r.1.inn = d' ∧ (r.2 = .ok ↔ z = true) := by
  obtain ⟨c1, rc1⟩ := P
  subst hr
  rcases hP with h | h <;> (simp only at h; subst h)
  · cases z
    · exact ⟨modIn_inn _ _, fun h => Rc.noConfusion h, fun h => Bool.noConfusion h⟩
    · exact ⟨modIn_inn _ _, fun _ => rfl, fun _ => rfl⟩
  · rcases hrc with h | h <;> cases h

/-- **C06 (identity body: exactly min(left, available) is consumed)**: whenever REQ_BODY_IDENTITY does not fail, the read and
    consume cursors advance by exactly `take c`, the bytes still owed decrease by exactly that amount, and the state moves to
    REQ_FINALIZE precisely when nothing is owed any more — for every chunk, every cursor position and every callback policy. -/
theorem C06_identity_cursor (cfg : Cfg) (c : Conn) (hn : take c ≠ 0)
    (hrc : (reqBodyIdentity cfg c).2 = .ok ∨ (reqBodyIdentity cfg c).2 = .data) :
    (reqBodyIdentity cfg c).1.inn.read = c.inn.read + take c ∧
    (reqBodyIdentity cfg c).1.inn.consume = c.inn.consume + take c ∧
    (reqBodyIdentity cfg c).1.inn.bodyDataLeft = c.inn.bodyDataLeft - take c ∧
    ((reqBodyIdentity cfg c).2 = .ok ↔ c.inn.bodyDataLeft - take c = 0) := by
  have hN0 : (take c == 0) = false := by simpa using hn
  generalize hr : reqBodyIdentity cfg c = r at hrc ⊢
  unfold reqBodyIdentity at hr
  simp only [show (if c.inn.len - c.inn.read ≥ c.inn.bodyDataLeft then c.inn.bodyDataLeft else c.inn.len - c.inn.read) = take c from rfl, hN0] at hr
  generalize hP : reqProcessBodyData cfg _ _ c = P at hr
  have hframe : FrameDirs c P.1 := by rw [← hP]; exact frame_reqProcessBodyData ..
  obtain ⟨hrd, _, hc, _, hb, _⟩ := hframe.inn_fields
  obtain ⟨h1, h2⟩ := body_tail P _ _ _ _ (by rw [← hP]; exact reqProcessBodyData_rc ..) r hr.symm hrc
  rw [h1, h2]
  simp only [modIn_inn, Dir.advance, hrd, hc, hb, beq_iff_eq, true_and]

/-- **C06 (finding S9)**: on the "unexpected body" path of REQ_FINALIZE bytes are delivered to the body callbacks while
    request_message_len stays where it was. Witness: one transaction in REQ_FINALIZE, chunk "xyz\n" (not a known method). -/
theorem C06_message_len_counterexample :
    let c0 : Conn := { inn := { status := STREAM_DATA, cur := [0x78, 0x79, 0x7a, 0x0a], curNull := false, len := 4, tx := some 0 },
                       inState := .finalize, txs := [some { uid := 0, reqProgress := 3, reqTransferCoding := CODING_IDENTITY }],
                       nextUid := 1 }
    let c1 := (reqFinalize {} c0).1
    ((c1.findTx 0).map (·.reqEntityLen)) = some 4 ∧ ((c1.findTx 0).map (·.reqMessageLen)) = some 0 := by
  decide +kernel
/-- bytes of the current chunk-coded piece that the next call of REQ_BODY_CHUNKED_DATA takes: min(left in this piece, available) -/
def takeChunk (c : Conn) : Int :=
  if c.inn.len - c.inn.read ≥ c.inn.chunkedLength then c.inn.chunkedLength else c.inn.len - c.inn.read

/-- **C06 (chunked body: exactly min(left in the piece, available) is consumed)**: whenever REQ_BODY_CHUNKED_DATA does not fail, the
    read and consume cursors advance by exactly `takeChunk c`, the bytes still owed for this piece decrease by exactly that amount,
    and the state moves on to the piece's terminating line precisely when nothing is owed any more - for every chunk, cursor
    position and callback policy. -/
theorem C06_chunked_cursor (cfg : Cfg) (c : Conn) (hn : takeChunk c ≠ 0)
    (hrc : (reqBodyChunkedData cfg c).2 = .ok ∨ (reqBodyChunkedData cfg c).2 = .data) :
    (reqBodyChunkedData cfg c).1.inn.read = c.inn.read + takeChunk c ∧
    (reqBodyChunkedData cfg c).1.inn.consume = c.inn.consume + takeChunk c ∧
    (reqBodyChunkedData cfg c).1.inn.chunkedLength = c.inn.chunkedLength - takeChunk c ∧
    ((reqBodyChunkedData cfg c).2 = .ok ↔ c.inn.chunkedLength - takeChunk c = 0) := by
  have hN0 : (takeChunk c == 0) = false := by simpa using hn
  generalize hr : reqBodyChunkedData cfg c = r at hrc ⊢
  unfold reqBodyChunkedData at hr
  simp only [show (if c.inn.len - c.inn.read ≥ c.inn.chunkedLength then c.inn.chunkedLength else c.inn.len - c.inn.read) = takeChunk c from rfl, hN0] at hr
  generalize hP : reqProcessBodyData cfg _ _ c = P at hr
  have hframe : FrameDirs c P.1 := by rw [← hP]; exact frame_reqProcessBodyData ..
  obtain ⟨hrd, _, hc, _, _, _, _, hb, _⟩ := hframe.inn_fields
  obtain ⟨h1, h2⟩ := body_tail P _ _ _ _ (by rw [← hP]; exact reqProcessBodyData_rc ..) r hr.symm hrc
  rw [h1, h2]
  simp only [modIn_inn, Dir.advance, hrd, hc, hb, beq_iff_eq, true_and]

/-- **C06 (the accounted lengths never decrease, over whole histories)**: for a connection parser from its creation (any configuration, any
    callback policy), every history of calls (request and response chunks in any interleaving, gaps, close, req_close, open, tx_freed) and every
    prefix of it: a transaction that exists after the prefix and still exists after the whole history has request_message_len,
    request_entity_len, response_message_len and response_entity_len at least as large as before - every write of the four fields, in every
    function of both directions, is an addition (`Lemmas/TxsRel.lean`, `LensMono.lean`; the same sweep as for the indicator bits of C11).
    That what is ADDED equals the bytes delivered is `C06_identity_cursor` / `C06_chunked_cursor` per body state and, end to end, the
    ground-truth oracle on the implementation (finding S9: one path adds to the entity length without adding to the message length). -/
theorem C06_history_lengths_monotone (cfg : Cfg) (policy : List (Nat × CbAction)) (calls pre : List Call) (hp : pre <+: calls)
    (u : Nat) (t t' : Tx)
    (h1 : (runCalls cfg { policy := policy } pre).findTx u = some t) (h2 : (runCalls cfg { policy := policy } calls).findTx u = some t') :
    t.reqMessageLen ≤ t'.reqMessageLen ∧ t.reqEntityLen ≤ t'.reqEntityLen ∧ t.resMessageLen ≤ t'.resMessageLen ∧
    t.resEntityLen ≤ t'.resEntityLen :=
  history_lens_monotone_policy cfg policy calls pre hp u t t' h1 h2

end Htp.C06
