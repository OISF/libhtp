/- C13 — URI splitting partitions the request target without inventing bytes. Proved: the parts, put together again, give back the target
   under the stated hypothesis (`C13_rejoin_partial`: `noBracketJunk`, with a counter-example outside it), a leading slash stays with the path, a port
   is in 1..65535 or invalid. -/
import HtpModel.Lemmas.Uri
import HtpModel.Prim.Num

namespace Htp.C13
open Htp.Uri

/-- the authority text the splitter isolates from a target (none if it finds no authority) -/
def authorityOf (s : Bytes) : Option Bytes :=
  let data := stripTrailingSpaces s
  let (scheme, rest) := splitScheme data
  (splitAuthority scheme rest).1

/-- decidable guard that excludes finding S6: in the authority, after a bracketed literal only
    ":port" (or nothing) follows -/
def noBracketJunk (s : Bytes) : Bool :=
  match authorityOf s with
  | some a => noJunkAfterBracket (hostPartOf a)
  | none => true

theorem rejoin_parts (scheme : Option Bytes) (a : Auth) (t : Tail) :
    rejoin { scheme := scheme, username := a.username, password := a.password, hostname := a.hostname, port := a.port,
             path := some t.path, query := t.query, fragment := t.fragment } =
      schemePart scheme ++ ((if a.hostname.isSome then [0x2f, 0x2f] else []) ++ (rejoinAuth a ++ rejoinTail t)) := by
  unfold rejoin rejoinAuth rejoinTail schemePart
  simp only [List.append_assoc, Option.getD_some]
  rfl

/- FULL STATEMENT (C13): `∀ s, rejoin (parseUri s) = stripTrailingSpaces s`.
   It is FALSE of the current code (finding S6): see `C13_rejoin_counterexample`. What is proved is the
   statement under the guard the proof forces, `noBracketJunk`. -/

/-- **C13 (re-join, partial)**: components re-joined with their delimiters reproduce the target minus
    trailing spaces — for every target in which no bytes sit between `]` and the port colon. -/
theorem C13_rejoin_partial (s : Bytes) (h : noBracketJunk s = true) :
    rejoin (parseUri s) = stripTrailingSpaces s := by
  unfold parseUri
  simp only
  by_cases h0 : (stripTrailingSpaces s).length = 0
  · simp only [h0, if_true]
    have : stripTrailingSpaces s = [] := List.eq_nil_of_length_eq_zero h0
    rw [this]; rfl
  · simp only [h0, if_false]
    have hs := scheme_join (stripTrailingSpaces s)
    have ha := authority_split_join (splitScheme (stripTrailingSpaces s)).1 (splitScheme (stripTrailingSpaces s)).2
    unfold noBracketJunk authorityOf at h
    simp only at h
    generalize splitScheme (stripTrailingSpaces s) = sc at *
    obtain ⟨scheme, rest⟩ := sc
    simp only at hs ha h ⊢
    generalize splitAuthority scheme rest = au at *
    obtain ⟨auth, rest2⟩ := au
    simp only at ha h ⊢
    rw [rejoin_parts, tail_join, ← hs, ← ha]
    cases auth with
    | none => rfl
    | some a =>
      simp only at h ⊢
      rw [authority_join a h, parseAuthority_isSome a]
      rfl

/-- **C13 (finding S6)**: the full re-join identity fails — the bytes `abc` vanish. -/
theorem C13_rejoin_counterexample :
    -- "http://[::1]abc:80/p"
    rejoin (parseUri [104, 116, 116, 112, 58, 47, 47, 91, 58, 58, 49, 93, 97, 98, 99, 58, 56, 48, 47, 112]) ≠ stripTrailingSpaces [104, 116, 116, 112, 58, 47, 47, 91, 58, 58, 49, 93, 97, 98, 99, 58, 56, 48, 47, 112] := by
  decide +kernel

/-- **C13 (slash rule)**: a target that starts with '/' is never given a scheme or authority. -/
theorem C13_slash (s : Bytes) (h : (stripTrailingSpaces s).head? = some 0x2f) :
    (parseUri s).scheme = none ∧ (parseUri s).hostname = none ∧ (parseUri s).username = none ∧
    (parseUri s).password = none ∧ (parseUri s).port = none := by
  unfold parseUri
  simp only
  split
  · simp
  · have h1 : splitScheme (stripTrailingSpaces s) = (none, stripTrailingSpaces s) := by
      unfold splitScheme; simp [h]
    rw [h1]
    have h2 : splitAuthority none (stripTrailingSpaces s) = (none, stripTrailingSpaces s) := by
      unfold splitAuthority; simp
    simp [h2]

/-- **C13 (port rule)**: the numeric port is the decimal value of the port text when that is in
    1..65535, and -1/invalid otherwise (`parsePort` is `htp_parse_port`; the same arithmetic is inlined
    in `normalizeParsedUri`). -/
theorem C13_port_range (p : Bytes) :
    ((Num.parsePort p).1 = -1 ∧ (Num.parsePort p).2 = true) ∨
    (1 ≤ (Num.parsePort p).1 ∧ (Num.parsePort p).1 ≤ 65535 ∧ (Num.parsePort p).2 = false ∧
     (Num.parsePort p).1 = Num.parsePositiveIntegerWhitespace p 10) := by
  unfold Num.parsePort
  split
  · left; simp
  · simp only
    split
    · left; simp
    · split
      · right
        rename_i h1 h2
        refine ⟨by omega, by omega, rfl, rfl⟩
      · left; simp

/-- non-vacuity: an ordinary absolute URI with credentials, port, query and fragment meets the guard
    ("http://user:pw@host.com:80/p/a?q=1#f "), so does an IPv6 literal with a port
    ("http://[::1]:8080/x"); the S6 witness does not. -/
example : noBracketJunk [104, 116, 116, 112, 58, 47, 47, 117, 115, 101, 114, 58, 112, 119, 64, 104, 111, 115, 116, 46, 99, 111, 109, 58, 56, 48, 47, 112, 47, 97, 63, 113, 61, 49, 35, 102, 32] = true ∧ noBracketJunk [104, 116, 116, 112, 58, 47, 47, 91, 58, 58, 49, 93, 58, 56, 48, 56, 48, 47, 120] = true ∧ noBracketJunk [104, 116, 116, 112, 58, 47, 47, 91, 58, 58, 49, 93, 97, 98, 99, 58, 56, 48, 47, 112] = false := by decide +kernel

/-- "http://user:pw@host.com:80/p/a?q=1#f" splits as expected -/
example : parseUri [104, 116, 116, 112, 58, 47, 47, 117, 115, 101, 114, 58, 112, 119, 64, 104, 111, 115, 116, 46, 99, 111, 109, 58, 56, 48, 47, 112, 47, 97, 63, 113, 61, 49, 35, 102] =
    { scheme := some [104, 116, 116, 112], username := some [117, 115, 101, 114], password := some [112, 119],
      hostname := some [104, 111, 115, 116, 46, 99, 111, 109], port := some [56, 48], path := some [47, 112, 47, 97],
      query := some [113, 61, 49], fragment := some [102] } := by decide +kernel

end Htp.C13
