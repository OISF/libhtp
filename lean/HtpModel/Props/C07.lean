/- C07 — decompression. inflate() is external: the model of the driver takes its results as a parameter and the correspondence compares
   every callback. Proved for ANY behaviour of inflate(): no more layers than configured, the bomb accounting stays within
   max(limit, 2048 x compressed bytes) + one block, a pass-through layer forwards verbatim, a rejected chunk with nothing produced is
   passed on whole; the compression constants are the reviewed ones. "Delivered = original payload" is a statement about zlib and is left
   to the ground-truth oracle; the restart path loses data on the unchanged code (S3, reproduced by the model); LZMA and the time check
   are outside the model. -/
import HtpModel.Conn.Res
import HtpModel.Pinned.Eq
import HtpModel.Lemmas.ListFacts

namespace Htp.C07
open Htp Htp.Conn Htp.Gen

/-- the accounting of the output blocks of one message: (compressed bytes received when the block is delivered, block length), in
    order; delivery stops with the first block for which the callback reports a bomb (the layer is then ended) -/
def deliver (limit : Nat) : List (Nat × Nat) → Nat → Nat
  | [], e => e
  | (m, n) :: rest, e => if bombExceeded limit (e + n) m then e + n else deliver limit rest (e + n)

/-- **C07 (bomb bound)**: whatever the block lengths (each at most one output buffer `B`) and however the compressed byte count `m` grows
    (never beyond `M`), what is delivered before the callback reports a bomb - that block included - never exceeds
    max(limit, 2048 x M) by more than one block. -/
theorem C07_bomb_bound (limit B M : Nat) (blocks : List (Nat × Nat)) (e : Nat)
    (hn : ∀ b ∈ blocks, b.2 ≤ B) (hm : ∀ b ∈ blocks, b.1 ≤ M) (he : e ≤ max limit (COMPRESSION_BOMB_RATIO * M)) :
    deliver limit blocks e ≤ max limit (COMPRESSION_BOMB_RATIO * M) + B := by
  induction blocks generalizing e with
  | nil => simp [deliver]; omega
  | cons b rest ih =>
    obtain ⟨m, n⟩ := b
    have hb := hn (m, n) (by simp)
    have hmm := hm (m, n) (by simp)
    simp only at hb hmm
    unfold deliver
    split
    · omega
    · rename_i hnot
      apply ih
      · intro x hx; exact hn x (by simp [hx])
      · intro x hx; exact hm x (by simp [hx])
      · -- the test passed: e + n ≤ limit or e + n ≤ 2048 * m ≤ 2048 * M
        unfold bombExceeded at hnot
        simp only [Bool.and_eq_true, decide_eq_true_eq, not_and, Nat.not_lt] at hnot
        have hmul : COMPRESSION_BOMB_RATIO * m ≤ COMPRESSION_BOMB_RATIO * M := Nat.mul_le_mul_left _ hmm
        by_cases h1 : e + n > limit
        · have := hnot h1; omega
        · omega

theorem ceChainLoop_len (layerLimit lzmaLimit : Int) (hl : 0 < layerLimit) (fuel : Nat) (input : Bytes) (layers nblzma : Int) (acc : List Nat)
    (h1 : (acc.length : Int) ≤ layers) (h2 : layers ≤ layerLimit) :
    ((ceChainLoop layerLimit lzmaLimit fuel input layers nblzma acc).length : Int) ≤ layerLimit := by
  induction fuel generalizing input layers nblzma acc with
  | zero => exact Int.le_trans h1 h2
  | succ k ih =>
    -- every exit but the last returns `acc` or the new accumulator; the invariant `acc.length ≤ layers ≤ layerLimit` covers both
    have h0 : (acc.length : Int) ≤ layerLimit := Int.le_trans h1 h2
    rw [ceChainLoop]
    by_cases hi : input.isEmpty = true
    · rw [if_pos hi]; exact h0
    · rw [if_neg hi]
      cases getToken input with
      | none => exact h0
      | some st =>
        have hne : (layerLimit != 0) = true := bne_iff_ne.mpr (Int.ne_of_gt hl)
        simp only [hne, if_true, Bool.true_and]
        have hacc := length_ite_snoc_le (ceTokenType st.2 != 1) acc (ceTokenType st.2)
        generalize (if ceTokenType st.2 != 1 then acc ++ [ceTokenType st.2] else acc) = acc' at hacc ⊢
        by_cases hgt : layers + 1 > layerLimit
        · rw [if_pos (decide_eq_true hgt)]; exact h0
        · rw [if_neg (by simpa using hgt)]
          have h1' : (acc'.length : Int) ≤ layers + 1 := by omega
          have hgt' := Int.not_lt.mp hgt
          split
          · exact h0
          · split
            · exact Int.le_trans h1' hgt'
            · exact ih _ _ _ _ h1' hgt'

/-- **C07 (layers)**: with a positive layer limit, the chain built from ANY Content-Encoding value has at most that many layers. -/
theorem C07_layers_bound (cfg : Cfg) (value : Bytes) (hl : 0 < cfg.layerLimit) : ((ceChain cfg value).length : Int) ≤ cfg.layerLimit := by
  unfold ceChain
  exact ceChainLoop_len _ _ hl _ _ 0 0 [] (by simp) (by omega)

/-- **C07 (pass-through is verbatim)**: a layer in pass-through mode hands every chunk, and the end-of-stream marker, to the callback
    exactly as it received them - nothing is dropped, nothing is inflated. -/
theorem C07_passthrough_verbatim (cfg : Cfg) (req : Bool) (uid fuel : Nat) (drec : Dec) (rest : List Dec) (data : Option Bytes) (c : Conn) (hp : drec.passthrough = true) :
    decompress cfg req uid (fuel + 1) (drec :: rest) data c =
      (drec :: rest, ((decFinalCallback cfg req uid data.isNone data c).1, if (decFinalCallback cfg req uid data.isNone data c).2 != .ok then .error else .ok)) := by
  unfold decompress
  simp [hp]

/-- **C07 (data that cannot be inflated is passed on, not lost)**: when inflate() rejects the input with nothing in the output buffer
    and every restart has been used up, the whole chunk as it was received goes to the callback and the layer switches to
    pass-through. -/
theorem C07_failed_inflate_passes_chunk (cfg : Cfg) (req : Bool) (uid fuel : Nat) (d inp : Bytes) (drec : Dec) (rest : List Dec) (c : Conn) (z : ZRes) (zs : List ZRes)
    (hin : inp ≠ []) (hb : drec.buf = []) (hk : drec.kind = 2 ∨ drec.kind = 3) (hr : 3 ≤ drec.restart)
    (hz : c.zoracle = z :: zs) (hprod : z.produced = []) (hrc : z.rc ≠ Z_OK ∧ z.rc ≠ Z_STREAM_END) :
    decStep cfg req uid d (fuel + 1) drec rest inp c =
      (if (decFinalCallback cfg req uid false (some d) { c with zoracle := zs }).2 != .ok
       then ({ drec with kind := 0 } :: rest, ((decFinalCallback cfg req uid false (some d) { c with zoracle := zs }).1, Rc.error))
       else ({ drec with kind := 0, buf := [], passthrough := true } :: rest, ((decFinalCallback cfg req uid false (some d) { c with zoracle := zs }).1, Rc.ok))) := by
  unfold decStep
  have notLzma : (drec.kind == 4) = false := by rcases hk with h | h <;> simp [h]
  have inited : (drec.kind == 0) = false := by rcases hk with h | h <;> simp [h]
  have noRestart : ¬ drec.restart < 3 := by omega
  have notEnd : (z.rc == Z_STREAM_END) = false := by simpa using hrc.2
  have failed : (z.rc != Z_OK) = true := by simpa using hrc.1
  simp only [Bool.false_eq_true, if_false, notLzma, inited, hz]
  -- nothing in the buffer, so the return code is inflate's own
  simp only [hb, hprod, List.append_nil, List.length_nil, Nat.lt_irrefl, gt_iff_lt, decide_false, Bool.false_and, Bool.false_eq_true, if_false,
    notEnd, failed, if_true, noRestart]

/-- non-vacuity: a two-token header under the default limit of two layers builds two layers; a third token is cut off -/
example : ceChain {} (b!"gzip, deflate") = [2, 3] ∧ ceChain {} (b!"gzip, deflate, gzip") = [2, 3] := by decide +kernel
example : deliver 1000 [(10, 8192), (10, 8192), (10, 8192), (10, 8192)] 0 = 24576 := by decide

/-- **C07 (the constants are the reviewed ones)**: every constant the translator reads from the current source - among them the compression constants (bomb ratio and limit, buffer size, layer limits) -
    equals its reviewed snapshot (lean/HtpModel/Pinned); the model follows a regenerated constant, so this is what notices a changed one -/
theorem C07_constants_pinned : Htp.Pinned.ConstantsPinned := Htp.Pinned.constants_pinned

end Htp.C07
