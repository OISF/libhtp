/- C14 — multipart bodies. Proved for every input, about the model `HtpModel.Multipart` that the correspondence ties to htp_multipart.c: the
   quoted-string scanner and decoder of Content-Disposition recover every name and file name; a part gets exactly those; a chunk without
   CR or LF inside part data is handed on verbatim and cutting it in two calls gives the same part value; the boundary of a plain
   Content-Type is found exactly. Cuts inside line ends, boundaries and part headers are left to the chunking oracle of checks/c14.py. -/
import HtpModel.Lemmas.Multipart
import HtpModel.Lemmas.Prims

namespace Htp.Props.C14
open Htp Htp.Multipart

/-- **C14 (names, 1).** Decoding the escaped form of any name or file name gives it back. -/
theorem C14_quoted_roundtrip (n : Bytes) : decodeQuoted (esc n) = n := decodeQuoted_esc n

/-- **C14 (names, 2).** The scanner stops exactly at the closing quote of an escaped value, whatever follows. -/
theorem C14_quoted_scan (n rest : Bytes) : scanQuoted (esc n ++ DQUOTE :: rest) [] = some (esc n, rest) := by
  simpa using scanQuoted_esc n rest []

/-- **C14 (names, 3).** Name and file name of a part are exactly what the sender escaped into Content-Disposition. -/
theorem C14_cd_exact (p : Parser) (part : Part) (n : Bytes) (f : Option Bytes) (hn : part.name = none) (hf : part.file = none)
    (hh : part.headers = [{ name := (b!"Content-Disposition"), value := cdValue n f }]) :
    parseCD p part = (p, { part with name := some n, file := f.map (fun f => { filename := f }) }) := by
  unfold parseCD
  have hg : getHeaderC part.headers (b!"content-disposition") = some { name := (b!"Content-Disposition"), value := cdValue n f } := by
    rw [hh]
    unfold getHeaderC
    have : (Bstr.cmpMemNocaseNorzero (b!"Content-Disposition") (b!"content-disposition") == 0) = true := by decide
    simp [List.find?, this]
  rw [hg]
  simp only
  have hi : Bstr.indexOfMem (cdValue n f) (b!"form-data") = some 0 :=
    Bstr.indexOfAux_append _ _ _ _ 0 0 (by decide)
  rw [hi]
  simp only [bne_self_eq_false, Bool.false_eq_true, if_false]
  have hd : (cdValue n f).drop 9 = (b!"; name=\"") ++ (esc n ++ DQUOTE :: cdTail f) := by
    simp [cdValue]
  rw [hd]
  have hl : ∃ k, (cdValue n f).length + 1 = k + 3 := ⟨(cdValue n f).length - 2, by simp [cdValue]⟩
  obtain ⟨k, hk⟩ := hl
  have e1 : cdParamType (b!"name") = 1 := by decide
  have e2 : cdParamType (b!"filename") = 2 := by decide
  rw [hk]
  refine (cd_step (k + 2) (b!"name") n _ p part (by decide)).trans ?_
  simp only [e1, hn, Option.isSome_none, Bool.false_eq_true, if_false]
  cases f with
  | none => simp [cdTail, cdLoop_nil, hf]
  | some f =>
    refine (cd_step (k + 1) (b!"filename") f [] p _ (by decide)).trans ?_
    simp [e2, hf, cdLoop_nil]

/-- **C14 (data, one chunk).** A chunk without CR or LF that arrives while the parser is inside part data, with no CR set
    aside, is handed to the current part verbatim and in one piece. -/
theorem C14_data_chunk_verbatim (p : Parser) (d : Bytes) (hs : p.state = .data) (hc : p.crAside = 0) (hd : plain d) (hne : d ≠ []) :
    parse p d = handleData p d false := by
  unfold parse
  have hlen : 0 < d.length := by cases d with | nil => exact absurd rfl hne | cons a t => simp
  have hge := parseFuel_ge p d
  obtain ⟨k, hk⟩ : ∃ k, parseFuel p d = k + 2 := ⟨parseFuel p d - 2, by omega⟩
  rw [hk]
  unfold parseLoop
  simp only [hlen, if_true]
  unfold parseLoop
  simp only [hs]
  rw [dataIn_plain d 0 0 k p 0 (by simpa using hd) hc (by omega) (by omega), slice_all]

/-- one plain, non-empty piece is appended to the open part; the hypotheses hold again of the result (state, crAside and mode unchanged,
    `cur` the part with `len` increased), so the lemma iterates -/
theorem parse_data_piece (p : Parser) (part : Part) (d : Bytes)
    (hs : p.state = .data) (hc : p.crAside = 0) (hcur : p.cur = some part) (hm : p.mode = .data) (ht : (part.type == T_FILE) = false)
    (hd : plain d) (hne : d ≠ []) :
    parse p d = { p with dataPieces := p.dataPieces ++ [d], cur := some { part with len := part.len + d.length } } := by
  rw [C14_data_chunk_verbatim p d hs hc hd hne, handleData_cur p part d false hne hcur, partHandleData_data p part d hm ht]

/-- **C14 (chunking, partial).** Inside the data of a text (or preamble/epilogue/unknown) part, cutting a run of bytes
    that contains no CR and no LF into two calls gives the same parser state as one call, except that the part's data is held in
    two pieces instead of one; the value assembled from the pieces is the same.  The full statement (every cut position) is
    not proved; see the header of this file. -/
theorem C14_chunking_partial (p : Parser) (a b : Bytes) (part : Part)
    (hs : p.state = .data) (hc : p.crAside = 0) (hcur : p.cur = some part) (hm : p.mode = .data) (ht : (part.type == T_FILE) = false)
    (ha : plain a) (hb : plain b) (hna : a ≠ []) (hnb : b ≠ []) :
    pendingValue (parse (parse p a) b) = pendingValue (parse p (a ++ b)) ∧
    { parse (parse p a) b with dataPieces := [] } = { parse p (a ++ b) with dataPieces := [] } := by
  rw [parse_data_piece p part a hs hc hcur hm ht ha hna,
    parse_data_piece p part (a ++ b) hs hc hcur hm ht (plain_append ha hb) (by simp [hna]),
    parse_data_piece { p with dataPieces := p.dataPieces ++ [a], cur := some { part with len := part.len + a.length } } _ b
      hs hc rfl hm ht hb hnb]
  simp [pendingValue, Nat.add_assoc]

/-- F5 (repaired in /repo): the data of an epilogue that contains an empty line is stored once per call, whatever the chunking (before the
    repair the code stored it twice per call) -/
theorem C14_epilogue_example :
    let ct := (b!"multipart/form-data; boundary=B")
    let h := (b!"--B\r\nContent-Disposition: form-data; name=\"a\"\r\n\r\nv\r\n--B--\r\n\r\n")
    ((run ct [h ++ (b!"abc")]).parts.map (·.value)) = [some (b!"v"), some (b!"\r\nabc")] ∧
    ((run ct [h ++ (b!"a"), (b!"bc")]).parts.map (·.value)) = [some (b!"v"), some (b!"\r\nabc")] := by
  decide +kernel

/-- non-vacuity: a parser state reached by a real run meets the hypotheses of `C14_chunking_partial` -/
example :
    let p := (parse (create (b!"B") 0) (b!"--B\r\nContent-Disposition: form-data; name=\"a\"\r\n\r\nx"))
    p.state = .data ∧ p.crAside = 0 ∧ p.mode = .data ∧ (p.cur.map (·.type)) = some T_TEXT ∧
    hasFlag p.flags SEEN_LAST_BOUNDARY = false := by
  decide +kernel

example : plain (b!"he--llo") := by
  intro c hc
  have : ∀ c ∈ (b!"he--llo"), (c != CR && c != LF) = true := by decide
  have h2 := this c hc
  simp only [Bool.and_eq_true, bne_iff_ne, ne_eq] at h2
  exact h2

open Htp.Gen in
theorem takeWhile_allOf {α} (q : α → Bool) (l : List α) (h : ∀ b ∈ l, q b = true) : l.takeWhile q = l :=
  takeWhile_all q l h

section
open Htp.Gen

theorem index_boundary (tail : Bytes) :
    Bstr.indexOfMemNocase ((b!"multipart/form-data; boundary") ++ tail) (b!"boundary") = some 21 :=
  Bstr.indexOfAux_append _ _ _ tail 0 21 (by decide)


/-- **C14 (boundary extraction)**: for a Content-Type value `multipart/form-data; boundary=B` whose boundary `B` is non-empty and contains
    no comma, semicolon, white space or double quote, htp_mpartp_find_boundary returns exactly `B`. -/
theorem C14_boundary_exact (c0 : UInt8) (bt : Bytes)
    (hb : ∀ x ∈ c0 :: bt, (x != COMMA && x != SEMI && !isSpace x) = true ∧ x ≠ DQUOTE) :
    (findBoundary ((b!"multipart/form-data; boundary") ++ EQS :: c0 :: bt)).1 = some (c0 :: bt) := by
  have h0 := hb c0 (by simp)
  have hsp0 : isSpace c0 = false := by
    have := h0.1; simp only [Bool.and_eq_true, Bool.not_eq_true'] at this; exact this.2
  have hdq : (c0 == DQUOTE) = false := by simpa using h0.2
  unfold findBoundary
  rw [index_boundary]
  simp only
  have hd : ((b!"multipart/form-data; boundary") ++ EQS :: c0 :: bt).drop (21 + 8) = EQS :: c0 :: bt := by
    exact List.drop_left' (by decide)
  rw [hd]
  have hpre : (EQS :: c0 :: bt).takeWhile (· != EQS) = [] := by simp [List.takeWhile]
  simp only [hpre, List.length_nil, List.drop_zero, List.foldl_nil]
  have hws : (c0 :: bt).takeWhile isSpace = [] := by simp [List.takeWhile, hsp0]
  simp only [hws, List.isEmpty_nil, if_true, List.length_nil, List.drop_zero, hdq, Bool.false_eq_true, if_false]
  have htw : (c0 :: bt).takeWhile (fun c => c != COMMA && c != SEMI && !isSpace c) = c0 :: bt :=
    takeWhile_all _ _ (fun x hx => (hb x hx).1)
  simp only [htw, List.drop_length, List.isEmpty_cons, Bool.false_eq_true, if_false]

example : (findBoundary (b!"multipart/form-data; boundary=----WebKitFormBoundaryX7")).1 = some (b!"----WebKitFormBoundaryX7") := by decide +kernel

end

end Htp.Props.C14
