/- C02 — parse fidelity. Proved for every input: a well-formed header line, request line and status line are reported with exactly the
   parts they carry (`C02_*_roundtrip`); the character classes, the base64 alphabet and the method table are the documented ones; the
   translated class and line predicates return the model's values. Folding and repetition, host/port, cookies, credentials, parameters,
   bodies and pipelining are left to the correspondence and the wire oracle of checks/c02.py (S33 is a counter-example for folded
   response values). -/
import HtpModel.Lemmas.ReqLine
import HtpModel.Pinned.Eq
import HtpModel.Lemmas.CFunsClasses
import HtpModel.Lemmas.CFunsAsBody
import HtpModel.Lemmas.CFunsBstr

namespace Htp.C02
open Htp Htp.Gen Htp.Parse

/-- **C02 (request header line).** A header line `name ": " value` whose name is a non-empty token and whose value neither starts
    nor ends with linear white space is reported with exactly that name and that value and no anomaly flag - whatever else the
    value contains (colons, NUL bytes, high bytes) and whatever the line terminator was. -/
theorem C02_header_roundtrip (data0 name value : Bytes) (r : Nat)
    (hch : chomp data0 = (name ++ 0x3a :: 0x20 :: value, r))
    (hne : name ≠ []) (htok : name.all isToken = true)
    (hv1 : ∀ c, value.head? = some c → isLws c = false) (hv2 : ∀ c, value.getLast? = some c → isLws c = false) :
    parseRequestHeader data0 = ({ name := name, value := value, flags := 0 }, 0) := by
  have htk : ∀ c ∈ name, isToken c = true := by simpa [List.all_eq_true] using htok
  have hnl : 0 < name.length := List.length_pos_iff.mpr hne
  -- the line is `name ++ ": " ++ value`; every position the parser computes is read off this decomposition
  have hD : name ++ 0x3a :: 0x20 :: value = (name ++ [0x3a, 0x20]) ++ value := by simp
  have hlen : (name ++ 0x3a :: 0x20 :: value).length = name.length + 2 + value.length := by simp; omega
  have hcolon : ((name ++ 0x3a :: 0x20 :: value).takeWhile (fun c => c != 0 && c != 0x3a)) = name := by
    rw [List.takeWhile_append_of_pos (fun y hy => (token_facts y (htk y hy)).1), List.takeWhile_cons_of_neg (by decide),
      List.append_nil]
  have hget : (name ++ 0x3a :: 0x20 :: value).getD name.length 0 = 0x3a := by simp [List.getD]
  have htrail : trailCount isLws (name ++ 0x3a :: 0x20 :: value) 0 name.length = 0 := by
    unfold trailCount
    rw [List.take_left' rfl, List.drop_zero, takeWhile_head_false]
    · rfl
    · intro y hy
      exact (token_facts y (htk y (by simpa using List.mem_of_mem_head? hy))).2
  have hscan : scanFwd (fun c => !isLws c) (name ++ 0x3a :: 0x20 :: value) (name.length + 1) = name.length + 2 := by
    have hd : (name ++ 0x3a :: 0x20 :: value).drop (name.length + 1) = 0x20 :: value := by
      rw [show name ++ 0x3a :: 0x20 :: value = (name ++ [0x3a]) ++ 0x20 :: value by simp]; exact List.drop_left' (by simp)
    have hl : isLws 0x20 = true := by decide
    rw [scanFwd, hd, List.takeWhile_cons_of_pos (by simp [hl]), takeWhile_head_false _ _ (by intro y hy; simpa using hv1 y hy)]
    rfl
  have htake : (name ++ 0x3a :: 0x20 :: value).take (name.length + 2 + value.length) = name ++ 0x3a :: 0x20 :: value := by
    rw [← hlen]; exact List.take_length
  have htv : (List.takeWhile isLws (List.drop (name.length + 2 + 1)
      (List.take (name.length + 2 + value.length) (name ++ 0x3a :: 0x20 :: value))).reverse) = [] := by
    rw [htake, hD, show name.length + 2 + 1 = (name ++ [0x3a, 0x20]).length + 1 by simp, List.drop_length_add_append]
    apply takeWhile_head_false
    intro y hy
    rw [List.head?_reverse] at hy
    apply hv2
    match value, hy with
    | _ :: _ :: _, hy => simpa [List.getLast?_cons_cons] using hy
  have hval : List.drop (name.length + 2) (List.take (name.length + 2 + value.length - 0) (name ++ 0x3a :: 0x20 :: value)) = value := by
    rw [Nat.sub_zero, htake, hD]; exact List.drop_left' (by simp)
  have hname : (name ++ 0x3a :: 0x20 :: value).take (name.length - 0) = name := List.take_left' (Nat.sub_zero _).symm
  have hne0 : (name.length == 0) = false := by simp; omega
  have hcond : (name.length == name.length + 2 + value.length || (0x3a : UInt8) == 0) = false := by
    rw [show (name.length == name.length + 2 + value.length) = false by simp; omega]; decide
  have hlt : name.length < name.length + 2 + value.length := by omega
  unfold parseRequestHeader
  simp only [hch, hcolon, hlen, hget, htrail, hlt, if_true, hscan, hcond, hname, htok, hne0, htv,
    Bool.false_eq_true, if_false, List.length_nil, Nat.lt_irrefl, gt_iff_lt, ite_self, hval]

/-- non-vacuity: a real line meets the hypotheses (the CR LF terminator is what `chomp` removes) -/
example : chomp (b!"Host: www.example.com\r\n") = ((b!"Host") ++ 0x3a :: 0x20 :: (b!"www.example.com"), 2) := by decide +kernel
example : parseRequestHeader (b!"Host: www.example.com\r\n") = ({ name := (b!"Host"), value := (b!"www.example.com"), flags := 0 }, 0) :=
  C02_header_roundtrip _ (b!"Host") (b!"www.example.com") 2 (by decide) (by decide) (by decide) (by decide) (by decide)
/-- **C02 (request line)**: a request line `method SP target SP protocol` whose three parts contain no white space is reported with
    exactly that method, target and protocol (default line handling: no NUL termination, no space inside the target). -/
theorem C02_request_line_roundtrip (cfg : Cfg) (m u p : Bytes)
    (hc1 : cfg.reqLineNulTerminates = false) (hc2 : cfg.allowSpaceUri = false)
    (hm : ∀ b ∈ m, isSpace b = false) (hmne : m ≠ [])
    (hu : ∀ b ∈ u, isSpace b = false ∧ cIsspace b = false ∧ b ≠ 0x20) (hune : u ≠ [])
    (hp : ∀ b ∈ p, isSpace b = false) (hpne : p ≠ []) :
    parseRequestLine cfg (m ++ 0x20 :: (u ++ 0x20 :: p)) =
      { method := m, methodNumber := methodNumber m, uri := some u, protocol := some p, protocolNumber := parseProtocol p } := by
  obtain ⟨u0, ut, hue⟩ := List.exists_cons_of_ne_nil hune
  obtain ⟨p0, pt, hpe⟩ := List.exists_cons_of_ne_nil hpne
  obtain ⟨m0, mt, hme⟩ := List.exists_cons_of_ne_nil hmne
  have hu0 := hu u0 (by rw [hue]; simp)
  have e1 : scanFwd (fun c => !isSpace c) (m ++ 0x20 :: (u ++ 0x20 :: p)) 0 = 0 := by
    rw [hme]; exact scanFwd_stay _ m0 _ (by simp [hm m0 (by rw [hme]; simp)])
  have e2 := line3_scan1 isSpace m u p hm sp20
  have e3 := line3_scan2 (fun c => !cIsspace c) m u p u0 ut hue (by simp [csp20]) (by simp [hu0.2.1])
  have e4 := line3_scan3 (fun c => c == 0x20) m u p (fun b hb => by simpa using (hu b hb).2.2) (by simp)
  have e5 := line3_scan4 (fun c => !isSpace c) m u p p0 pt hpe (by simp [sp20]) (by simp [hp p0 (by rw [hpe]; simp)])
  have t4 : u.any isSpace = false := by simp; exact fun b hb => (hu b hb).1
  have n1 : (m.length + 1 == m.length + 1 + u.length + 1 + p.length) = false := by simp; omega
  have n2 : (m.length + 1 + u.length + 1 == m.length + 1 + u.length + 1 + p.length) = false := by simp [hpe]
  simp only [parseRequestLine, hc1, hc2, Bool.false_eq_true, if_false, e1, e2, e3, e4, e5, line3_field1, line3_field2, line3_field3,
    t4, bne_self_eq_false, Bool.false_and, line3_length, n1, n2]

/-- non-vacuity: an ordinary request line meets the hypotheses -/
example : parseRequestLine {} (b!"GET /a?b=c HTTP/1.1") =
    { method := (b!"GET"), methodNumber := methodNumber (b!"GET"), uri := some (b!"/a?b=c"), protocol := some (b!"HTTP/1.1"),
      protocolNumber := parseProtocol (b!"HTTP/1.1") } :=
  C02_request_line_roundtrip {} (b!"GET") (b!"/a?b=c") (b!"HTTP/1.1") rfl rfl (by decide) (by decide) (by decide) (by decide) (by decide) (by decide)

/-- **C02 (status line)**: a status line `protocol SP status SP reason` whose protocol and status contain no white space and whose reason
    phrase starts with a non-blank byte is reported with exactly that protocol, status and reason phrase (the phrase may contain any
    bytes, spaces included). -/
theorem C02_response_line_roundtrip (pr st msg : Bytes)
    (hpr : ∀ b ∈ pr, isSpace b = false) (hprne : pr ≠ [])
    (hst : ∀ b ∈ st, isSpace b = false) (hstne : st ≠ [])
    (m0 : UInt8) (mt : Bytes) (hmsg : msg = m0 :: mt) (hm0 : cIsspace m0 = false) :
    parseResponseLine (pr ++ 0x20 :: (st ++ 0x20 :: msg)) =
      { protocol := some pr, protocolNumber := parseProtocol pr, status := some st, statusNumber := parseStatus st, message := some msg } := by
  obtain ⟨p0, pt, hpe⟩ := List.exists_cons_of_ne_nil hprne
  obtain ⟨s0, stt, hse⟩ := List.exists_cons_of_ne_nil hstne
  have e0 : scanFwd (fun c => !isSpace c) (pr ++ 0x20 :: (st ++ 0x20 :: msg)) 0 = 0 := by
    rw [hpe]; exact scanFwd_stay _ p0 _ (by simp [hpr p0 (by rw [hpe]; simp)])
  have e1 := line3_scan1 isSpace pr st msg hpr sp20
  have e2 := line3_scan2 (fun c => !isSpace c) pr st msg s0 stt hse (by simp [sp20]) (by simp [hst s0 (by rw [hse]; simp)])
  have e3 := line3_scan3 isSpace pr st msg hst sp20
  have e4 := line3_scan4 (fun c => !cIsspace c) pr st msg m0 mt hmsg (by simp [csp20]) (by simp [hm0])
  have n0 : (pr.length - 0 == 0) = false := by simp [hpe]
  have n1 : (pr.length + 1 == pr.length + 1 + st.length + 1 + msg.length) = false := by simp; omega
  have n2 : (pr.length + 1 + st.length - (pr.length + 1) == 0) = false := by simp [hse]
  have n3 : (pr.length + 1 + st.length + 1 == pr.length + 1 + st.length + 1 + msg.length) = false := by simp [hmsg]
  simp only [parseResponseLine, e0, e1, e2, e3, e4, line3_field1, line3_field2, line3_field3, line3_length, n0, n1, n2, n3,
    Bool.false_eq_true, if_false]

example : parseResponseLine (b!"HTTP/1.1 404 Not Found") =
    { protocol := some (b!"HTTP/1.1"), protocolNumber := parseProtocol (b!"HTTP/1.1"), status := some (b!"404"), statusNumber := parseStatus (b!"404"),
      message := some (b!"Not Found") } :=
  C02_response_line_roundtrip (b!"HTTP/1.1") (b!"404") (b!"Not Found") (by decide) (by decide) (by decide) (by decide) 0x4e (b!"ot Found") rfl (by decide)

/-- the RFC 2616 separators -/
def sepSpec (c : UInt8) : Bool :=
  c == 0x28 || c == 0x29 || c == 0x3c || c == 0x3e || c == 0x40 || c == 0x2c || c == 0x3b || c == 0x3a || c == 0x5c || c == 0x22 ||
  c == 0x2f || c == 0x5b || c == 0x5d || c == 0x3f || c == 0x3d || c == 0x7b || c == 0x7d || c == 0x20 || c == 0x09

/-- **C02 (the character classes are the documented ones)**: the class tables the translator regenerates from the current source on every
    run - they decide where the line parsers split names, values, tokens and white space - are, for all 256 bytes, the classes of RFC 2616
    and of C's ctype in the "C" locale. A change to a class function that moves any byte breaks this by kernel evaluation, whatever the
    correspondence (whose model follows the regenerated tables) says. -/
theorem C02_char_classes : ∀ c : UInt8,
    Htp.Gen.isLws c = (c == 0x20 || c == 0x09) ∧
    Htp.Gen.isSpace c = (c == 0x20 || (decide (0x09 ≤ c) && decide (c ≤ 0x0d))) ∧
    Htp.Gen.cIsspace c = Htp.Gen.isSpace c ∧
    Htp.Gen.isChunkedCtl c = Htp.Gen.isSpace c ∧
    Htp.Gen.isFoldingChar c = (Htp.Gen.isLws c || c == 0) ∧
    Htp.Gen.isSeparator c = sepSpec c ∧
    Htp.Gen.isText c = (c == 0x09 || decide (0x20 ≤ c)) ∧
    Htp.Gen.isToken c = (decide (0x20 ≤ c) && decide (c ≤ 0x7e) && !sepSpec c) ∧
    Htp.Gen.cIsdigit c = (decide (0x30 ≤ c) && decide (c ≤ 0x39)) ∧
    Htp.Gen.cIsxdigit c = (Htp.Gen.cIsdigit c || (decide (0x41 ≤ c) && decide (c ≤ 0x46)) || (decide (0x61 ≤ c) && decide (c ≤ 0x66))) ∧
    Htp.Gen.cTolower c = (if decide (0x41 ≤ c) && decide (c ≤ 0x5a) then c + 0x20 else c) ∧
    Htp.Gen.cToupper c = (if decide (0x61 ≤ c) && decide (c ≤ 0x7a) then c - 0x20 else c) := by
  apply forall_uint8_of_lt
  decide +kernel

/-- the base64 alphabet of RFC 4648: value of a character, -2 for the padding '=', -1 for anything else -/
def b64Spec (c : UInt8) : Int :=
  if decide (0x41 ≤ c) && decide (c ≤ 0x5a) then (c.toNat : Int) - 0x41
  else if decide (0x61 ≤ c) && decide (c ≤ 0x7a) then (c.toNat : Int) - 0x61 + 26
  else if decide (0x30 ≤ c) && decide (c ≤ 0x39) then (c.toNat : Int) - 0x30 + 52
  else if c == 0x2b then 62 else if c == 0x2f then 63 else if c == 0x3d then -2 else -1

/-- **C02 (the credential decoder's alphabet is base64)**: the decoding table regenerated from htp_base64.c is RFC 4648's, for all 256 bytes
    (the request methods the parser names are pinned likewise below) -/
theorem C02_base64_table : ∀ c : UInt8, Htp.Parse.b64Single c = b64Spec c := by
  -- the table is the tabulation of the specification, rotated by 128 (the C index is a signed char): one pass over the list
  have tab : base64Single = (List.range 256).map fun i => b64Spec (UInt8.ofNat (if i < 128 then i + 128 else i - 128)) := by
    decide +kernel
  intro c
  have hc := c.toNat_lt
  unfold b64Single
  dsimp only
  rw [getD_of_eq_map_range tab (by split <;> omega)]
  congr 1
  apply UInt8.toNat_inj.mp
  rw [UInt8.toNat_ofNat']
  split <;> split <;> omega

theorem C02_method_table :
    Htp.Parse.methodNumber (b!"GET") = 2 ∧ Htp.Parse.methodNumber (b!"PUT") = 3 ∧ Htp.Parse.methodNumber (b!"POST") = 4 ∧
    Htp.Parse.methodNumber (b!"DELETE") = 5 ∧ Htp.Parse.methodNumber (b!"CONNECT") = 6 ∧ Htp.Parse.methodNumber (b!"OPTIONS") = 7 ∧
    Htp.Parse.methodNumber (b!"TRACE") = 8 ∧ Htp.Parse.methodNumber (b!"PATCH") = 9 ∧ Htp.Parse.methodNumber (b!"HEAD") = 1 ∧
    Htp.Parse.methodNumber (b!"get") = 0 ∧ Htp.Parse.methodNumber (b!"GETX") = 0 ∧ Htp.Gen.methodTableBytes.length = 28 ∧
    Htp.Gen.M_GET = 2 ∧ Htp.Gen.M_HEAD = 1 ∧ Htp.Gen.M_PUT = 3 ∧ Htp.Gen.M_POST = 4 ∧ Htp.Gen.M_CONNECT = 6 := by decide

/-- **C02 (class tables, base64, methods and constants are the reviewed ones)**: snapshot pins of the regenerated definitions the line parsers use -/
theorem C02_class_tables_pinned : Htp.Pinned.ClassTablesPinned := Htp.Pinned.classTables_pinned
theorem C02_constants_pinned : Htp.Pinned.ConstantsPinned := Htp.Pinned.constants_pinned

/-- **C02 (character classes and the status-line test, the code itself)**: the `switch` statements of htp_is_space and htp_is_separator and
    htp_is_token, translated from the current source by extract/ctrans.py (Gen/CFuns.lean), return on every byte what the class tables say -
    tables that are obtained by RUNNING the compiled functions and pinned by `C02_char_classes`: two independent routes from the code to the
    model that meet. htp_treat_response_line_as_body (white space / NUL skipped, then "http" in any case, the four reads guarded by the
    length test) returns the model's decision for every line below 2^63 bytes, within len + 1 loop turns and with every read inside the line. -/
theorem C02_translated_classes (fuel : Nat) (c : UInt8) :
    (Htp.Gen.C.htp_is_space fuel c.toNat).map (·.1) = some (Htp.CSem.b2i (isSpace c)) ∧
    (Htp.Gen.C.htp_is_separator fuel c.toNat).map (·.1) = some (Htp.CSem.b2i (isSeparator c)) ∧
    (Htp.Gen.C.htp_is_token fuel c.toNat).map (·.1) = some (Htp.CSem.b2i (isToken c)) :=
  ⟨Htp.CFuns.htp_is_space_eq fuel c, Htp.CFuns.htp_is_separator_eq fuel c, Htp.CFuns.htp_is_token_eq fuel c⟩

theorem C02_translated_line_as_body (d : Bytes) (h1 : d.length < 9223372036854775808) (fuel : Nat) (hf : d.length < fuel) :
    (Htp.Gen.C.htp_treat_response_line_as_body fuel d d.length).map (·.1) = some (Htp.CSem.b2i (treatResponseLineAsBody d)) :=
  Htp.CFuns.htp_treat_response_line_as_body_eq d h1 fuel hf

/-- the folding test of a header line (htp_connp_is_line_folded: -1 for an empty line, else the folding-character test of its first byte),
    translated code = model -/
theorem C02_translated_line_folded (fuel : Nat) (d : Bytes) :
    (Htp.Gen.C.htp_connp_is_line_folded fuel d d.length).map (·.1)
      = some (match isLineFolded d with | none => -1 | some b => Htp.CSem.b2i b) :=
  Htp.CFuns.BstrC.htp_connp_is_line_folded_eq fuel d

end Htp.C02
