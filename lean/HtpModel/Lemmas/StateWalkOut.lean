/- The walk over the response-direction state functions, once for every relation `Rel c c'` between the connection before and after - the
   mirror of Lemmas/StateWalk.lean. `ResRel`: a relation of the tx-level layer (`ResFnRel`, Lemmas/TxWalk.lean) that is also kept by the
   cursor primitives on `c.out` (among them the un-read of RES_BODY_CHUNKED_LENGTH and RES_FINALIZE, `unread`) and by the writes of fields
   no relation reads is kept by RES_LINE, RES_HEADERS, the body states, RES_FINALIZE and the state-change hook (`walk_res*`). One that
   also allows the writes of RES_BODY_DETERMINE (`ResDetRel`) and is kept by RES_IDLE (which runs request-side code and is not walked) is
   kept by every state function, the parts of a pass and the driver loop (`ResRelS`). -/
import HtpModel.Lemmas.StateWalk
namespace Htp.Conn
open Htp Htp.Gen

/-- what a relation of the state functions' layer may read: the state without the response side's bookkeeping (`resCore`) and
    without the amounts the body states count down -/
def resView (c : Conn) : Conn := resCore { c with out := { c.out with bodyDataLeft := 0, chunkedLength := 0 } }

/-- a direction record without the two offsets, the line buffer and the scratch fields -/
def Dir.unreadCore (d : Dir) : Dir :=
  { d.eraseAux with read := 0, consume := 0, buf := none, contentLength := 0, bodyDataLeft := 0, chunkedLength := 0 }

theorem walk_resPassHook {S : ResState → Prop} {Rel : Conn → Conn → Prop} (K : ResFnRel S Rel) (c : Conn) (rc : Rc) :
    Rel c (resPassHook c rc).1 := by
  unfold resPassHook
  exact ite_fst (fun _ => ite_fst (fun _ => K.refl c) fun _ => walk_resHandleStateChange K c) fun _ => K.refl c

/-- `ResFnRel` and what the response state functions write beyond the tx-level functions they call; `cfg` and `B` as in `ReqRel`.
    Instances: `resRel_resFrame` (Lemmas/DirFrames.lean), `resRel_keeps` (Lemmas/ConnSweepOut.lean), `resRel_stToO` (Lemmas/OwedOut.lean),
    and those of `ResRelS`. -/
structure ResRel (cfg : Cfg) (B : Prop) (S : ResState → Prop) (Rel : Conn → Conn → Prop) : Prop extends ResFnRel S Rel where
  /-- a write to fields no relation reads (`K.same rfl`) -/
  same : ∀ {c c' : Conn}, resView c' = resView c → Rel c c'
  cursor : ∀ {c : Conn} {d : Dir}, Dir.Step cfg.fieldLimitHard B c.out d → Rel c { c with out := d }
  /-- any rewrite of the two offsets and the line buffer that keeps the offsets inside the chunk and does not lengthen the buffer: the
      un-read of RES_BODY_CHUNKED_LENGTH and RES_FINALIZE, and `consume := read` -/
  unread : ∀ {c : Conn} {d : Dir}, d.unreadCore = c.out.unreadCore →
    (B → 0 ≤ c.out.consume → 0 ≤ c.out.read → c.out.read ≤ c.out.len → 0 ≤ d.consume ∧ 0 ≤ d.read ∧ d.read ≤ d.len) →
    (d.buf.map (·.length)).getD 0 ≤ (c.out.buf.map (·.length)).getD 0 → Rel c { c with out := d }

/-- ... and the writes of RES_BODY_DETERMINE (`ResDetRel`; its `status` is also the status write at the end of a data call), and RES_IDLE.
    Instances: `resRelS_inv` (Lemmas/BufInvOut.lean), `resRelS_within` (Lemmas/ConnSweepOut.lean), `resRelS_resCross`
    (Lemmas/HistoryFrames.lean). -/
structure ResRelS (cfg : Cfg) (B : Prop) (S : ResState → Prop) (Rel : Conn → Conn → Prop) : Prop
    extends ResRel cfg B S Rel, ResDetRel Rel where
  resIdle : ∀ c, Rel c (resIdle cfg c).1

section
variable {cfg : Cfg} {B : Prop} {S : ResState → Prop} {Rel : Conn → Conn → Prop}

theorem ResRel.consolidate (K : ResRel cfg B S Rel) {c : Conn} {d : Dir} {data : Bytes}
    (h : c.out.consolidate cfg.fieldLimitHard false = some (d, data)) : Rel c { c with out := d } := by
  rcases Dir.consolidate_step (B := B) h with rfl | st
  · exact K.refl c
  · exact K.cursor st

theorem ResRel.mono {Rel' : Conn → Conn → Prop} (K : ResRel cfg B S Rel) (h : ∀ {c c'}, Rel c c' → Rel' c c')
    (trans : ∀ {a b c}, Rel' a b → Rel' b c → Rel' a c) : ResRel cfg B S Rel' where
  toResFnRel := K.toResFnRel.mono h trans
  same e := h (K.same e)
  cursor e := h (K.cursor e)
  unread e hb hl := h (K.unread e hb hl)

theorem ResRel.consumeRead (K : ResRel cfg B S Rel) (c : Conn) : Rel c { c with out := { c.out with consume := c.out.read } } :=
  K.unread rfl (fun _ _ b c => ⟨b, b, c⟩) (Nat.le_refl _)

theorem walk_resLineAsBody (K : ResRel cfg B S Rel) (uid : Nat) (dn : Bool) (data line : Bytes) (cr : Nat) (c : Conn)
    (s1 : S .finalize := by trivial) : Rel c (resLineAsBody cfg uid dn data line cr c).1 := by
  unfold resLineAsBody
  extract_lets nextIsH rd1 ln1 c1 c2 src c3
  have k1 : Rel c c1 := K.modTx ..
  have k3 : Rel c c3 := K.trans (K.modTx ..) (K.consumeRead c2)
  clear_value c1 c3
  refine ite_fst (fun _ => K.trans k1 (K.cursor (c := c1) .clear)) fun _ => ?_
  have k4 := K.trans k3 (walk_resProcessBodyData K.toCbRel cfg (if dn then none else some (data.take (line.length + cr))) c3)
  split
  rename_i c4 rc4 hx
  rw [hx] at k4
  have k5 := K.trans k4 (K.cursor (c := c4) .clear)
  refine ite_fst (fun _ => k5) fun _ => ?_
  refine ite_fst (fun _ => ?_) fun _ => k5
  exact K.trans k5 (K.trans (K.modTx uid (fun t => { t with resTransferCoding := CODING_IDENTITY, resProgress := 3 }) _)
    (K.trans (K.toState _ _ s1) (K.same rfl)))

theorem walk_resLineComplete (cfg : Cfg) (K : ResRel cfg B S Rel) (uid : Nat) (closed : Bool) (c : Conn)
    (s1 : S .finalize := by trivial) (s2 : S .headers := by trivial) : Rel c (resLineComplete cfg uid closed c).1 := by
  unfold resLineComplete
  cases hc : c.out.consolidate cfg.fieldLimitHard false with
  | none => exact K.refl c
  | some q =>
    obtain ⟨d2, data⟩ := q
    simp -zeta only
    extract_lets dataNull c0 c1 c2 c3 rl c4
    have h0 : Rel c c0 := K.consolidate hc
    have h3 : Rel c c3 := K.trans h0 (K.modTx ..)
    have h4 : Rel c c4 := K.trans h3 (K.modTx ..)
    have h2 : Rel c c2 := by
      refine K.trans (b := c1) ?_ (K.modTx ..)
      exact ite_cases (P := fun x : Conn => Rel c x) (fun _ => K.trans h0 (K.toState _ _ s1)) fun _ => h0
    clear_value c0 c1 c2 c3 c4 dataNull
    refine ite_fst (fun _ => K.trans h2 (K.cursor (c := c2) .clear)) fun _ => ?_
    refine ite_fst (fun _ => K.trans h3 (walk_resLineAsBody K _ _ _ _ _ _ s1)) fun _ => ?_
    refine K.andThen _ _ _ (K.trans h4 (walk_txStateResponseLine K.toResFnRel uid c4)) fun c5 => ?_
    exact K.trans (K.cursor (c := c5) .clear) (K.trans (K.toState _ _ s2) (K.modTx ..))

theorem walk_resLineLoop (cfg : Cfg) (K : ResRel cfg B S Rel) (fuel : Nat) (c : Conn) (s1 : S .finalize := by trivial)
    (s2 : S .headers := by trivial) : Rel c (resLineLoop cfg fuel c).1 := by
  induction fuel generalizing c with
  | zero => exact K.refl c
  | succ k ih =>
    rw [resLineLoop_succ]
    cases c.out.tx with
    | none => exact K.refl c
    | some uid =>
      dsimp only
      cases h1 : resLineByte c with
      | none => exact K.refl c
      | some c1 =>
        have e1 : Rel c c1 := by
          rcases resLineByte_some h1 with rfl | ⟨d, b, hcb, rfl⟩
          · exact K.refl _
          · exact K.cursor (.copy hcb)
        dsimp only
        cases h2 : resLineCr c1 with
        | error rc => exact K.trans e1 (K.same rfl)
        | ok p =>
          obtain ⟨c2, again⟩ := p
          obtain ⟨n, rfl⟩ := resLineCr_ok h2
          have e2 : Rel c { c1 with out := { c1.out with nextByte := n } } := K.trans e1 (K.same rfl)
          cases again with
          | true => exact K.trans e2 (ih _)
          | false => exact ite_fst (fun _ => K.trans e2 (ih _)) fun _ => K.trans e2 (walk_resLineComplete cfg K ..)

/-- the line-end handling is a chain of looks ahead and copies; it gives up only when the first look ahead finds no byte -/
theorem rel_resHeadersEol {Rel : Conn → Conn → Prop} (trans : ∀ {a b c : Conn}, Rel a b → Rel b c → Rel a c)
    (peek : ∀ c : Conn, Rel c { c with out := (c.out.peekSet).1 })
    (copy : ∀ {c : Conn} {d : Dir} {b : UInt8}, c.out.copyByte = some (d, b) → Rel c { c with out := d })
    (copyC : ∀ {c : Conn} {d : Dir} {b : UInt8}, c.out.copyByte = some (d, b) → Rel c { c with out := { d with consume := d.consume + 1 } })
    (b : UInt8) (lfcr : Bool) (c : Conn) : EolRes (c.out.peek = none) (Rel c) (resHeadersEol b lfcr c) := by
  unfold resHeadersEol
  refine ite_cases (P := EolRes (c.out.peek = none) (Rel c)) (fun _ => ?_) fun _ => ?_
  · split
    rename_i d0 nb h0
    have e0 : d0 = (c.out.peekSet).1 := by rw [h0]
    subst e0
    have s0 : Rel c { c with out := (c.out.peekSet).1 } := peek c
    split
    · exact (congrArg Prod.snd h0 :)
    · refine ite_cases (P := EolRes (c.out.peek = none) (Rel c)) (fun _ => ?_) fun _ =>
        ite_cases (P := EolRes (c.out.peek = none) (Rel c)) (fun _ => s0) fun _ => s0
      split
      · rename_i h1
        exact absurd h1 (Dir.copy_of_peek (congrArg Prod.snd h0 :))
      · rename_i d1 _ h1
        have s1 : Rel c { c with out := d1 } := trans s0 (copy (c := { c with out := (c.out.peekSet).1 }) h1)
        refine ite_cases (P := EolRes (c.out.peek = none) (Rel c)) (fun _ => ?_) fun _ => s1
        split
        rename_i d2 nb2 h2
        have e2 : d2 = (d1.peekSet).1 := by rw [← (show (({ c with out := d1 } : Conn).out.peekSet).1 = d2 from by rw [h2])]
        subst e2
        have s2 : Rel c { c with out := (d1.peekSet).1 } := trans s1 (peek { c with out := d1 })
        refine ite_cases (P := EolRes (c.out.peek = none) (Rel c)) (fun hcr => ?_) fun _ => s2
        split
        · rename_i h3
          exact absurd h3 (Dir.copy_of_peek (b := CR) ((congrArg Prod.snd h2 :).trans (eq_of_beq hcr)))
        · rename_i d3 _ h3
          have s3 : Rel c { c with out := { d3 with consume := d3.consume + 1 } } :=
            trans s2 (copyC (c := { c with out := (d1.peekSet).1 }) h3)
          dsimp only
          refine ite_cases (P := EolRes (c.out.peek = none) (Rel c)) (fun hlf => ?_) fun _ => trans s3 (peek _)
          split
          · rename_i h5
            exact absurd h5 (Dir.copy_of_peek (b := LF) (eq_of_beq hlf))
          · rename_i d5 _ h5
            exact trans s3 (trans (peek _) (copyC (c := { c with out := (Dir.peekSet { d3 with consume := d3.consume + 1 }).1 }) h5))
  · split
    rename_i d0 nb h0
    have e0 : d0 = (c.out.peekSet).1 := by rw [h0]
    subst e0
    have s0 : Rel c { c with out := (c.out.peekSet).1 } := peek c
    refine ite_cases (P := EolRes (c.out.peek = none) (Rel c)) (fun hcr => ?_) fun _ => s0
    split
    · rename_i h1
      exact absurd h1 (Dir.copy_of_peek (b := CR) ((congrArg Prod.snd h0 :).trans (eq_of_beq (Bool.and_eq_true_iff.1 hcr).1)))
    · rename_i d1 _ h1
      exact trans s0 (copy (c := { c with out := (c.out.peekSet).1 }) h1)

theorem walk_resHeadersEol (K : ResRel cfg B S Rel) (b : UInt8) (lfcr : Bool) (c : Conn) :
    EolRes (c.out.peek = none) (Rel c) (resHeadersEol b lfcr c) :=
  rel_resHeadersEol (Rel := Rel) K.trans (fun _ => K.same rfl) (fun h => K.cursor (.copy h)) (fun h => K.cursor (.copyConsume h)) b lfcr c

theorem walk_resHeadersEol_ok (K : ResRel cfg B S Rel) {b : UInt8} {lfcr : Bool} {c c2 : Conn} {l e a : Bool}
    (h : resHeadersEol b lfcr c = .ok (c2, l, e, a)) : Rel c c2 := by
  have hs := walk_resHeadersEol K b lfcr c
  rw [h] at hs
  exact hs

theorem walk_resTrailer (K : ResRel cfg B S Rel) (uid : Nat) (c : Conn) (s1 : S .finalize := by trivial) :
    Rel c (resTrailer uid c).1 :=
  K.andThen _ _ _ (walk_resReceiverFinalizeClear K.toResFnRel c) fun _ => K.andThen _ _ _ (walk_runCallback K.toCbRel ..) fun _ => K.toState _ _ s1

theorem walk_resHeadersEnd (K : ResRel cfg B S Rel) (uid : Nat) (c : Conn) (s1 : S .finalize := by trivial)
    (s2 : S .bodyDetermine := by trivial) : Rel c (resHeadersEnd uid c).1 :=
  K.andThen _ _ _ (walk_resFlushHeader K.toResFnRel c) fun c1 =>
    ite_fst (fun _ => K.trans (K.cursor (c := c1) .clear) (K.toState _ _ s2)) fun _ => K.trans (K.cursor (c := c1) .clear) (walk_resTrailer K _ _ s1)

theorem walk_resHeadersLoop (cfg : Cfg) (K : ResRel cfg B S Rel) (fuel : Nat) (lfcr : Bool) (c : Conn)
    (s1 : S .finalize := by trivial) (s2 : S .bodyDetermine := by trivial) : Rel c (resHeadersLoop cfg fuel lfcr c).1 := by
  induction fuel generalizing c lfcr with
  | zero => exact K.refl c
  | succ k ih =>
    rw [resHeadersLoop_succ]
    cases c.out.tx with
    | none => exact K.refl c
    | some uid =>
      refine ite_fst (fun _ => walk_resTrailer K uid c) fun _ => ?_
      cases hn : c.out.copyByte with
      | none => exact K.refl c
      | some p =>
        obtain ⟨d, b⟩ := p
        have kd : Rel c { c with out := d } := K.cursor (.copy hn)
        refine ite_fst (fun _ => K.trans kd (ih _ _)) fun _ => ?_
        split
        · exact K.trans kd (K.same rfl)
        · rename_i heq
          exact K.trans (K.trans kd (walk_resHeadersEol_ok K heq)) (ih _ _)
        · rename_i c2 lfcr2 ecr2 heq
          have e2 : Rel c c2 := K.trans kd (walk_resHeadersEol_ok K heq)
          cases hc : c2.out.consolidate cfg.fieldLimitHard false with
          | none => exact e2
          | some q =>
            obtain ⟨d2, data⟩ := q
            refine K.trans (K.trans e2 (K.consolidate hc)) ?_
            refine ite_fst (fun _ => ih _ _) fun _ => ?_
            refine ite_fst (fun _ => walk_resHeadersEnd K ..) fun _ => ?_
            exact K.andThen _ _ _ (walk_resHeaderLine K.toResFnRel ..) fun c5 => K.trans (K.cursor (c := c5) .clear) (ih _ _)

theorem walk_resBodyIdentityClKnown (K : ResRel cfg B S Rel) (c : Conn) (ho : B → 0 ≤ c.out.bodyDataLeft)
    (s1 : S .finalize := by trivial) : Rel c (resBodyIdentityClKnown cfg c).1 := by
  cases hc : c.out.status == STREAM_CLOSED with
  | true => rw [resBodyIdentityClKnown_closed cfg c hc]; exact K.trans (K.toState c _ s1) (walk_resProcessBodyData K.toCbRel cfg ..)
  | false =>
    rw [resBodyIdentityClKnown_open cfg c hc]
    refine rel_takeBody (v := fun c => (c.out.read, c.out.len)) K.refl K.trans (fun _ => rfl) ?_ ?_ ?_ ?_ c ho
    · exact fun n c => congrArg (fun x : Int × Int × Int × Int × ResState => (x.1, x.2.1)) (resTx_resProcessBodyDataGap ..).body
    · exact fun n c => walk_resProcessBodyDataGap K.toCbRel cfg ..
    · exact fun n c1 hf => K.trans (K.cursor (c := c1) (.advance n hf)) (K.same rfl)
    · exact fun c => K.trans (K.toState c _ s1) (walk_resProcessBodyData K.toCbRel cfg ..)

theorem walk_resBodyIdentityStreamClose (K : ResRel cfg B S Rel) (c : Conn) (s1 : S .finalize := by trivial) :
    Rel c (resBodyIdentityStreamClose cfg c).1 := by
  unfold resBodyIdentityStreamClose
  extract_lets n data r
  have hr : Rel c r.1 := by
    simp only [r]
    refine ite_fst (fun _ => ?_) fun _ => K.refl c
    have k := walk_resProcessBodyDataGap K.toCbRel cfg data (if c.out.curNull then n.toNat else 0) c
    have hi := inert_resProcessBodyDataGap cfg data (if c.out.curNull then n.toNat else 0) c
    refine ite_fst (fun _ => k) fun _ => K.trans k (K.cursor (.advance n fun _ h => ?_))
    have e1 := congrArg (·.read) hi.1.2
    have e2 := congrArg (·.len) hi.1.2
    simp only [Dir.eraseTx] at e1 e2
    rw [e1, e2] at h ⊢
    exact ⟨Int.sub_nonneg_of_le h, Int.le_refl _⟩
  clear_value r
  exact K.andThen _ _ _ hr fun c1 => ite_fst (fun _ => K.toState _ _ s1) fun _ => K.refl c1

theorem walk_resChunkedDataEndLoop (K : ResRel cfg B S Rel) (fuel : Nat) (c : Conn) (s1 : S .bodyChunkedLength := by trivial) :
    Rel c (resChunkedDataEndLoop fuel c).1 := by
  induction fuel generalizing c with
  | zero => exact K.refl c
  | succ k ih =>
    unfold resChunkedDataEndLoop
    cases hn : c.out.nextByteConsume with
    | none => exact K.refl c
    | some p =>
      obtain ⟨d, b⟩ := p
      have k1 : Rel c ({ c with out := d }.modOut (fun t => { t with resMessageLen := t.resMessageLen + 1 })) :=
        K.trans (K.cursor (.take hn)) (K.modOut _ _)
      exact ite_fst (fun _ => K.trans k1 (K.toState _ _ s1)) fun _ => K.trans k1 (ih _)

theorem walk_resBodyChunkedData (K : ResRel cfg B S Rel) (c : Conn) (ho : B → 0 ≤ c.out.chunkedLength)
    (s1 : S .bodyChunkedDataEnd := by trivial) : Rel c (resBodyChunkedData cfg c).1 := by
  rw [resBodyChunkedData_eq]
  refine rel_takeBody (v := fun c => (c.out.read, c.out.len)) K.refl K.trans (fun _ => rfl) ?_ ?_ ?_ ?_ c ho
  · exact fun n c => congrArg (fun x : Int × Int × Int × Int × ResState => (x.1, x.2.1)) (resTx_resProcessBodyData ..).body
  · exact fun n c => walk_resProcessBodyData K.toCbRel cfg ..
  · exact fun n c1 hf => K.trans (K.cursor (c := c1) (.advance n hf)) (K.same rfl)
  · exact fun c => K.toState c _ s1

theorem walk_resChunkedLengthLoop (cfg : Cfg) (K : ResRel cfg B S Rel) (fuel : Nat) (c : Conn)
    (t1 : S .bodyIdentityStreamClose := by trivial) (t2 : S .bodyChunkedData := by trivial) (t3 : S .headers := by trivial) :
    Rel c (resChunkedLengthLoop cfg fuel c).1 := by
  induction fuel generalizing c with
  | zero => exact K.refl c
  | succ k ih =>
    unfold resChunkedLengthLoop
    cases hn : c.out.copyByte with
    | none => exact K.refl c
    | some p =>
      obtain ⟨d, b⟩ := p
      have h0 : Rel c { c with out := d } := K.cursor (.copy hn)
      refine ite_fst (fun _ => K.trans h0 (ih _)) fun _ => ?_
      cases hc : d.consolidate cfg.fieldLimitHard false with
      | none => exact h0
      | some q =>
        obtain ⟨d2, data⟩ := q
        simp -zeta only
        extract_lets c1 s1 c2 s2 rd c3 c4
        have h1 : Rel c c1 := K.trans (K.trans h0 (K.consolidate (c := { c with out := d }) hc))
          (K.modOut _ _)
        have h2 : Rel c c2 := K.trans h1 (K.same rfl)
        have h4 : Rel c c4 := K.trans h2 (K.cursor (c := c2) .clear)
        have h3 : Rel c c3 := by
          refine K.trans h2 (K.trans (b := { c2 with out := { c2.out with read := rd } }) (K.unread rfl (fun _ a b c => ⟨a, ?_, ?_⟩) (Nat.le_refl _))
            (K.toState _ _ t1))
          · show 0 ≤ rd; simp only [rd]; split <;> omega
          · show rd ≤ c2.out.len; simp only [rd]; split <;> omega
        clear_value c1 c2 c3 c4
        refine ite_fst (fun _ => K.trans h2 (K.trans (K.consumeRead c2) (ih _))) fun _ => ?_
        refine ite_fst (fun _ => K.trans h3 (K.modOut _ _)) fun _ => ?_
        exact ite_fst (fun _ => K.trans h4 (K.toState _ _ t2)) fun _ => K.trans h4 (K.trans (K.toState c4 _ t3) (K.modOut _ _))

theorem walk_resFinalizeScan (K : ResRel cfg B S Rel) (fuel : Nat) {c : Conn} {d : Dir} (h : resFinalizeScan fuel c.out = some d) :
    Rel c { c with out := d } := by
  induction fuel generalizing c with
  | zero => unfold resFinalizeScan at h; simp only [Option.some.injEq] at h; rw [← h]; exact K.refl c
  | succ k ih =>
    unfold resFinalizeScan at h
    cases hc : c.out.copyByte with
    | none => rw [hc] at h; simp at h
    | some p =>
      obtain ⟨d1, b1⟩ := p
      rw [hc] at h
      simp only at h
      split at h
      · simp only [Option.some.injEq] at h; rw [← h]; exact K.cursor (.copy hc)
      · exact K.trans (K.cursor (.copy hc)) (ih (c := { c with out := d1 }) h)

theorem walk_resFinalize (cfg : Cfg) (K : ResRel cfg B S Rel) (c : Conn) (h : S .idle := by trivial) : Rel c (resFinalize cfg c).1 := by
  unfold resFinalize
  cases c.out.tx with
  | none => exact K.refl c
  | some uid =>
    simp -zeta only
    extract_lets cp pre
    have hp : ∀ c' b, pre = some (c', b) → Rel c c' := by
      intro c' b hpre
      have out : ∀ {x : Conn} {b' : Bool}, some (x, b') = some (c', b) → Rel c x → Rel c c' := fun e k => by cases e; exact k
      simp only [pre] at hpre
      split at hpre
      · split at hpre
        · exact out hpre (K.same rfl)
        · split at hpre
          · split at hpre
            · simp at hpre
            · rename_i _ d hd
              exact out hpre (K.trans (b := cp) (K.same rfl) (walk_resFinalizeScan K _ hd))
          · exact out hpre (K.same rfl)
      · exact out hpre (K.refl c)
    clear_value pre
    split
    · exact K.cursor (c := c) (.readAll _)
    · rename_i _ c1
      exact K.trans (hp _ _ rfl) (walk_txStateResponseCompleteEx K.toResFnRel cfg _ _ h)
    · rename_i _ c1
      have h1 := hp _ _ rfl
      clear hp
      cases hc : c1.out.consolidate cfg.fieldLimitHard false with
      | none => exact h1
      | some q =>
        obtain ⟨d2, data⟩ := q
        simp -zeta only
        extract_lets dataNull c2 rd keep buf cs
        have h2 : Rel c c2 := K.trans h1 (K.consolidate hc)
        clear_value c2 dataNull
        refine ite_fst (fun _ => K.trans h2 (walk_txStateResponseCompleteEx K.toResFnRel cfg _ _ h)) fun _ => ?_
        refine ite_fst (fun _ => ?_) fun _ => ?_
        · exact K.trans (K.trans h2 (walk_resProcessBodyData K.toCbRel cfg (some data) c2)) (K.cursor .clear)
        · refine K.trans h2 (K.trans (K.unread (d := { c2.out with read := rd, consume := cs, buf := buf }) rfl
            (fun _ a b c => ⟨?_, ?_, ?_⟩) ?_) (walk_txStateResponseCompleteEx K.toResFnRel cfg _ _ h))
          · show 0 ≤ cs; simp only [cs]; split <;> omega
          · show 0 ≤ rd; simp only [rd]; split <;> omega
          · show rd ≤ c2.out.len; simp only [rd]; split <;> omega
          · show (buf.map (·.length)).getD 0 ≤ (c2.out.buf.map (·.length)).getD 0
            simp only [buf]
            cases c2.out.buf with
            | none => exact Nat.le_refl _
            | some bb =>
              simp only [Option.map_some, Option.getD_some, List.length_take]
              omega

theorem walk_resStateFn (cfg : Cfg) (K : ResRelS cfg B S Rel) (c : Conn)
    (ho1 : B → c.outState = ResState.bodyIdentityClKnown → 0 ≤ c.out.bodyDataLeft)
    (ho2 : B → c.outState = ResState.bodyChunkedData → 0 ≤ c.out.chunkedLength) (hS : ∀ s, S s := by exact fun _ => trivial) :
    Rel c (resStateFn cfg c).1 := by
  unfold resStateFn
  cases hs : c.outState with
  | idle => exact K.resIdle c
  | line => exact walk_resLineLoop cfg K.toResRel _ c (hS _) (hS _)
  | headers => exact walk_resHeadersLoop cfg K.toResRel _ _ c (hS _) (hS _)
  | bodyDetermine => exact walk_resBodyDetermine K.toResFnRel K.toResDetRel cfg c hS
  | bodyIdentityClKnown => exact walk_resBodyIdentityClKnown K.toResRel c (fun hb => ho1 hb hs) (hS _)
  | bodyIdentityStreamClose => exact walk_resBodyIdentityStreamClose K.toResRel c (hS _)
  | bodyChunkedLength => exact walk_resChunkedLengthLoop cfg K.toResRel _ c (hS _) (hS _) (hS _)
  | bodyChunkedData => exact walk_resBodyChunkedData K.toResRel c (fun hb => ho2 hb hs) (hS _)
  | bodyChunkedDataEnd => exact walk_resChunkedDataEndLoop K.toResRel _ c (hS _)
  | finalize => exact walk_resFinalize cfg K.toResRel c (hS _)

theorem walk_resPassStep (cfg : Cfg) (K : ResRelS cfg B S Rel) {g : Bool} {c : Conn} {r : R} (h : resPassStep cfg g c = some r)
    (ho1 : B → c.outState = ResState.bodyIdentityClKnown → 0 ≤ c.out.bodyDataLeft)
    (ho2 : B → c.outState = ResState.bodyChunkedData → 0 ≤ c.out.chunkedLength) (hS : ∀ s, S s := by exact fun _ => trivial) :
    Rel c r.1 := by
  rcases resPassStep_cases h with rfl | ⟨uid, rfl⟩ | rfl
  · exact walk_resStateFn cfg K c ho1 ho2 hS
  · exact walk_txStateResponseCompleteEx K.toResFnRel cfg _ _ (hS _)
  · exact K.refl c

theorem walk_resEnds (K : ResRelS cfg B S Rel) {c : Conn} {rc : Rc} {r : Conn × Nat} (h : ResEnds cfg c rc r) : Rel c r.1 := by
  obtain ⟨c3, d, s, h3, hd, _, rfl, _⟩ := h
  have k3 : Rel c c3 := by
    rcases h3 with rfl | rfl
    · exact K.refl _
    · exact walk_resReceiverSend K.toResFnRel false c
  have kd : Rel c3 { c3 with out := d } := by
    rcases hd with rfl | hb
    · exact K.refl _
    · exact K.cursor (.setAside hb)
  exact K.trans k3 (K.trans kd (K.status _ s))

/-- (`nb` as for `walk_reqDriverLoop`; the loop of a relation that bounds the cursors is in Lemmas/BufInvOut.lean) -/
theorem walk_resDriverLoop (cfg : Cfg) (K : ResRelS cfg B S Rel) (nb : ¬ B) (g : Bool) (fuel : Nat) (c0 : Conn)
    (hS : ∀ s, S s := by exact fun _ => trivial) : Rel c0 (resDriverLoop cfg g fuel c0).1 :=
  (resDriverLoop_is cfg g).rule (I := Rel c0) (Q := fun r => Rel c0 r.1) (fun _ h => K.trans h (K.book rfl)) (fun _ h => h)
    (fun _ r h hs =>
      have k := K.trans h (K.trans (walk_resPassStep cfg K hs (fun hb => absurd hb nb) (fun hb => absurd hb nb) hS)
        (walk_resPassHook K.toResFnRel r.1 r.2))
      ⟨fun _ _ => k, fun _ _ => k, fun _ _ e => K.trans k (walk_resEnds K e)⟩) fuel c0 (K.refl c0)

end
end Htp.Conn
