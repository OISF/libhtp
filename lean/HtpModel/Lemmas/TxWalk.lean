/- The transaction-level functions of the two directions - the data receivers, header processing, the installers of the library's body
   parsers, htp_tx_process_request_headers, htp_tx_state_request_* / htp_tx_state_response_*, and RES_BODY_DETERMINE, which moves no
   cursor - walked once for every relation `Rel` between the state before and after that is kept by the callback machinery (`CbRel`,
   Lemmas/Conn.lean) and by the writes these functions make beyond it (`ReqFnRel`, `ResFnRel`, `ResDetRel`). Then the strongest such
   relations on the two direction records and the two parser states, `ReqTx S` and `ResTx S`: every relation "`c'` is `c` as far as ...
   goes" that reads nothing but these is a weakening of one of them (`ReqFnRel.mono`, `ResFnRel.mono`); one that reads the stored
   transactions or a scalar of the connection (`policy`, `connFlags`, the counters ...) instantiates the interfaces itself. -/
import HtpModel.Lemmas.Conn
namespace Htp.Conn
open Htp.Gen

variable {Rel : Conn → Conn → Prop}

/-- a direction record without what the data receiver, the header under construction and the look-ahead keep in it -/
def Dir.eraseAux (d : Dir) : Dir := { d with receiver := 0, receiverHook := none, header := none, nextByte := 0 }

/-- a state without the request side's own bookkeeping: PUT-file flag, receiver, pending header, the parser's previous state, the
    decompressor -/
def reqCore (c : Conn) : Conn :=
  { c with inn := c.inn.eraseAux, inStatePrev := none, putFile := false, inDecs := [], reqDecompressor := false }

@[reducible] def StTo (S : ReqState → Prop) (c c' : Conn) : Prop := c'.inState = c.inState ∨ S c'.inState

theorem StTo.trans {S : ReqState → Prop} {a b c : Conn} (h1 : StTo S a b) (h2 : StTo S b c) : StTo S a c := by
  rcases h2 with h2 | h2
  · rcases h1 with h1 | h1
    · exact .inl (h2.trans h1)
    · exact .inr (h2 ▸ h1)
  · exact .inr h2

/-- `CbRel` and what the request side's transaction-level functions write beyond it: `aux` for a step that writes only the request
    side's own bookkeeping (`K.aux rfl`), `toState` for a move of the parser to a state of `S`, `clearIn` for dropping `in_tx`. A walk
    asks `S` for the states its function moves the parser to, last and by `trivial`: a relation that does not read the parser's state
    (`S := fun _ => True`) need not name them.
    Instances: `keeps_fn` (Lemmas/ConnSweep.lean), and `reqTx_fn`, of which every relation that reads only the two direction records and the two
    parser states is a weakening (`ReqFnRel.mono`). Not an instance: `Inert` (the receivers write the direction record). -/
structure ReqFnRel (S : ReqState → Prop) (Rel : Conn → Conn → Prop) : Prop extends CbRel Rel where
  aux : ∀ {c c' : Conn}, reqCore c' = reqCore c → Rel c c'
  toState : ∀ (c : Conn) (s : ReqState), S s → Rel c { c with inState := s }
  clearIn : ∀ c : Conn, Rel c { c with inn := { c.inn with tx := none } }

/-- the one writer of the request repetition counter, through `addHeader` -/
theorem walk_processRequestHeader (K : CbRel Rel) (data : Bytes) (c : Conn) : Rel c (processRequestHeader data c).1 := by
  unfold processRequestHeader
  simp only
  refine K.trans (K.modIn _ c) (K.modIn _ _ fun t => ?_)
  exact ⟨rfl, FlagSub.refl _, Lens.LenLe.refl _, Prog.ProgLe.refl _, fun h => ⟨addHeader_reps_capped _ _ _ h.1, h.2⟩, id⟩

/-- the one writer of the response repetition counter -/
theorem walk_processResponseHeader (K : CbRel Rel) (d : Bytes) (c : Conn) : Rel c (processResponseHeader d c).1 := by
  unfold processResponseHeader
  simp only
  refine K.trans (K.modOut _ c fun t => ?_) (K.modOut _ _ fun t => ?_)
  · split
    · split
      · exact TxCont.refl t
      · tx_cont
    · tx_cont
  · exact ⟨rfl, FlagSub.refl _, Lens.LenLe.refl _, Prog.ProgLe.refl _, fun h => ⟨h.1, addHeader_reps_capped _ _ _ h.2⟩, id⟩

theorem walk_installUrlenc (K : CbRel Rel) (cfg : Cfg) (uid : Nat) (t : Tx) (c : Conn) (ht : t.uid = uid) :
    Rel c (installUrlenc cfg uid t c) := by
  unfold installUrlenc
  refine ite_cases (fun _ => ?_) fun _ => K.refl c
  simp only []
  cases ((c.findTx uid).getD t).reqContentType with
  | none => exact K.refl c
  | some ct =>
    -- the one branch that writes: a urlencoded body gets its parser and its body hook
    exact ite_cases (fun _ => K.setTx_getD ht) fun _ => K.refl c

theorem walk_installMpart (K : CbRel Rel) (cfg : Cfg) (uid : Nat) (t : Tx) (c : Conn) (ht : t.uid = uid) :
    Rel c (installMpart cfg uid t c) := by
  unfold installMpart
  refine ite_cases (fun _ => ?_) fun _ => K.refl c
  simp only []
  split
  · split
    · -- the one branch that writes: a usable boundary was found, the multipart parser and its body hook are installed
      exact K.setTx_getD ht
    · exact K.refl c
  · exact K.refl c

theorem walk_urlencQueryCallback (K : CbRel Rel) (cfg : Cfg) (uid : Nat) (c : Conn) : Rel c (urlencQueryCallback cfg uid c) := by
  unfold urlencQueryCallback
  cases hf : c.findTx uid with
  | none => exact K.refl c
  | some t =>
    simp only []
    -- nothing without a query; with one, the record is written back with the parameters added and the flag word and the expected
    -- status as the urlencoded parser returns them (it only ORs into the word)
    repeat' split
    all_goals first | exact K.refl c | exact K.setTx _ hf

section
variable {S : ReqState → Prop}

theorem walk_reqReceiverSend (K : ReqFnRel S Rel) (l : Bool) (c : Conn) : Rel c (reqReceiverSend l c).1 := by
  unfold reqReceiverSend
  cases c.inn.receiverHook with
  | none => exact K.refl c
  | some h =>
    apply K.andThen
    · exact walk_runCallback K.toCbRel ..
    · intro c2; exact K.aux rfl

theorem walk_reqReceiverFinalizeClear (K : ReqFnRel S Rel) (c : Conn) : Rel c (reqReceiverFinalizeClear c).1 := by
  unfold reqReceiverFinalizeClear
  cases c.inn.receiverHook with
  | none => exact K.refl c
  | some h => exact K.trans (walk_reqReceiverSend K true c) (K.aux rfl)

theorem walk_reqReceiverSet (K : ReqFnRel S Rel) (h : Hook) (c : Conn) : Rel c (reqReceiverSet h c).1 := by
  unfold reqReceiverSet
  exact K.trans (walk_reqReceiverFinalizeClear K c) (K.aux rfl)

theorem walk_reqFlushHeader (K : ReqFnRel S Rel) (c : Conn) : Rel c (reqFlushHeader c).1 := by
  unfold reqFlushHeader
  cases c.inn.header with
  | none => exact K.refl c
  | some h =>
    simp only
    have := walk_processRequestHeader K.toCbRel h c
    -- a variable in its place: comparing the two cores would otherwise evaluate it
    generalize processRequestHeader h c = r at this ⊢
    exact ite_fst (fun _ => this) fun _ => K.trans this (K.aux rfl)

theorem walk_reqHandleStateChange (K : ReqFnRel S Rel) (c : Conn) : Rel c (reqHandleStateChange c).1 := by
  unfold reqHandleStateChange
  refine ite_fst (fun _ => K.refl c) fun _ => ?_
  refine K.andThen _ _ _ ?_ fun _ => K.aux rfl
  refine ite_fst (fun _ => ?_) fun _ => K.refl c
  refine ite_fst (fun _ => K.refl c) fun _ => ?_
  refine ite_fst (fun _ => walk_reqReceiverSet K _ c) fun _ => ?_
  exact ite_fst (fun _ => walk_reqReceiverSet K _ c) fun _ => K.refl c

theorem walk_txProcessRequestHeadersTail (K : ReqFnRel S Rel) (cfg : Cfg) (uid : Nat) (t : Tx) (ae : Bool) (c : Conn)
    (ht : t.uid = uid) : Rel c (txProcessRequestHeadersTail cfg uid t ae c).1 := by
  unfold txProcessRequestHeadersTail
  refine ite_fst (fun _ => K.refl c) fun _ => ?_
  apply K.andThen _ _ _ (walk_reqReceiverFinalizeClear K c)
  intro c1
  exact K.trans (K.trans (walk_installUrlenc K.toCbRel cfg uid t c1 ht) (walk_installMpart K.toCbRel cfg uid t _ ht))
    (walk_runCallback K.toCbRel ..)

theorem walk_txStateRequestCompletePartial (K : ReqFnRel S Rel) (cfg : Cfg) (uid : Nat) (c : Conn) :
    Rel c (txStateRequestCompletePartial cfg uid c).1 := by
  unfold txStateRequestCompletePartial
  apply K.andThen
  · exact ite_fst (fun _ => walk_reqProcessBodyData K.toCbRel ..) fun _ => K.refl c
  · intro c1
    apply K.andThen
    · exact K.trans (K.modTx _ _ c1) (walk_runCallback K.toCbRel ..)
    · intro c2
      apply K.andThen _ _ _ (walk_reqReceiverFinalizeClear K c2)
      intro c3; exact K.aux rfl

theorem walk_txStateRequestComplete (K : ReqFnRel S Rel) (cfg : Cfg) (uid : Nat) (c : Conn)
    (h1 : S .idle := by trivial) (h2 : S .ignoreDataAfter09 := by trivial) : Rel c (txStateRequestComplete cfg uid c).1 := by
  unfold txStateRequestComplete
  apply K.andThen
  · exact ite_fst (fun _ => walk_txStateRequestCompletePartial K ..) fun _ => K.refl c
  · intro c1
    refine K.trans (K.trans ?_ (walk_txFinalize K.toCbRel cfg uid _)) (K.clearIn _)
    exact K.toState c1 _ (ite_cases (P := S) (fun _ => h2) fun _ => h1)

theorem walk_txStateRequestStart (K : ReqFnRel S Rel) (uid : Nat) (c : Conn) (h : S .line := by trivial) :
    Rel c (txStateRequestStart uid c).1 := by
  unfold txStateRequestStart
  apply K.andThen _ _ _ (walk_runCallback K.toCbRel ..)
  intro c1
  exact K.trans (K.toState c1 _ h) (K.modIn _ _)

/-- htp_tx_process_request_headers: the record it writes back with `setTx` is the one it read, with the flag word sent through the
    framing arbitration, the host determination and the credentials parser, and with the framing decision stored -/
theorem walk_txProcessRequestHeaders (K : ReqFnRel S Rel) (cfg : Cfg) (uid : Nat) (c : Conn) :
    Rel c (txProcessRequestHeaders cfg uid c).1 := by
  unfold txProcessRequestHeaders
  extract_lets t0 ce enc c2 t1 c1 fr t2 hasBody c0 un
  have k2 : Rel c c2 := K.modTx ..
  have k1 : Rel c2 c1 := ite_cases (fun _ => K.aux rfl) fun _ => K.refl _
  have k0 : Rel c1 c0 := ite_cases (fun _ => K.aux rfl) fun _ => K.refl _
  have hc0 : Rel c c0 := K.trans (K.trans k2 k1) k0
  have hf0 : c0.findTx uid = c2.findTx uid := by
    have e : c0.txs = c2.txs := by
      simp only [c0, c1]
      split <;> split <;> rfl
    unfold Conn.findTx; rw [e]
  -- the one writer of the request transfer coding and Content-Length: what it stores is `ClOKTx` whatever was there
  have ht2 : TxCont t1 t2 :=
    ⟨rfl, by simp only [t2, fr]; flag_mono, Lens.LenLe.refl _, Prog.ProgLe.refl _, id, fun _ => clOKTx_framed t1⟩
  clear_value c0
  split
  rename_i hn pn fl heq
  extract_lets t3 t4 t5
  have hfl : FlagSub t2.flags fl := by
    have e : fl = (requestHost t2.reqHeaders un.hostname un.portNumber t2.protocolNumber t2.flags).2.2 := by rw [heq]
    rw [e]; flag_mono
  have h3 : TxCont t1 t3 := ht2.trans (by tx_cont)
  have h4 : TxCont t1 t4 := by
    simp only [t4]
    split
    · exact h3.trans (by tx_cont)
    · exact h3
  have h5 : TxCont t1 t5 := by
    -- cookies: the record as it is, or with `cookies` set, a field no clause reads
    simp only [t5]
    repeat' split
    all_goals first | exact h4 | exact h4.trans (by tx_cont)
  clear_value t5
  split
  rename_i T ae heq
  have hT : TxCont t1 T := by
    have e := congrArg Prod.fst heq
    simp only at e
    rw [← e]
    -- authorization: every branch sets the auth fields only, but for the declined scheme, which also ORs AUTH_INVALID into the flag word
    repeat' split
    all_goals first | exact h5 | exact h5.trans (by tx_cont)
  have hu : T.uid = uid := by rw [hT.uid]; exact getD_uid c2 uid
  have ks : Rel c0 (c0.setTx T) := K.setTx_getD (d := { uid := uid }) rfl (by rw [hf0]; exact hT)
  exact K.trans hc0 (K.trans ks (walk_txProcessRequestHeadersTail K cfg uid T ae _ hu))

theorem walk_txStateRequestHeaders (K : ReqFnRel S Rel) (cfg : Cfg) (uid : Nat) (c : Conn)
    (h1 : S .finalize := by trivial) (h2 : S .connectCheck := by trivial) : Rel c (txStateRequestHeaders cfg uid c).1 := by
  unfold txStateRequestHeaders
  refine ite_fst (fun _ => ?_) fun _ => ite_fst (fun _ => ?_) fun _ => K.refl c
  · apply K.andThen _ _ _ (walk_runCallback K.toCbRel ..)
    intro c1
    apply K.andThen _ _ _ (walk_reqReceiverFinalizeClear K c1)
    intro c2; exact K.toState c2 _ h1
  · have k0 : Rel c (if c.inChunkCount != c.inChunkRequestIndex then c.modTx uid (fun t => { t with flags := t.flags ||| MULTI_PACKET_HEAD }) else c) :=
      ite_cases (fun _ => K.modTx _ _ c) fun _ => K.refl c
    apply K.andThen _ _ _ (K.trans k0 (walk_txProcessRequestHeaders K cfg uid _))
    intro c1; exact K.toState c1 _ h2

theorem walk_txStateRequestLine (K : ReqFnRel S Rel) (cfg : Cfg) (uid : Nat) (c : Conn) (hS : S .protocol := by trivial) :
    Rel c (txStateRequestLine cfg uid c).1 := by
  unfold txStateRequestLine
  extract_lets t0 hp fl1 fl2 src t1 t2 t3 c1
  refine ite_fst (fun _ => K.refl c) fun _ => ?_
  have h1 : TxCont t0 t1 := by
    simp only [t1]
    split
    · have hfl : FlagSub t0.flags fl2 := by
        simp only [fl2, fl1]
        repeat' split
        all_goals flag_mono
      tx_cont
    · split
      · tx_cont
      · exact TxCont.refl _
  have h2 : TxCont t0 t2 := by
    simp only [t2]
    split
    · exact h1
    · exact h1.trans (by tx_cont)
  have h3 : TxCont t0 t3 := by
    -- the hostname of the URI: the record as it is, or HOSTU_INVALID ORed into the flag word
    simp only [t3]
    repeat' split
    all_goals first | exact h2 | exact h2.trans (by tx_cont)
  have hc1 : Rel c c1 := K.setTx_getD (d := { uid := uid }) rfl h3
  clear_value c1
  refine K.trans hc1 (K.andThen c1 _ _ (walk_runCallback K.toCbRel ..) fun c2 => ?_)
  have k3 : Rel c2 (if cfg.urlencParsers then urlencQueryCallback cfg uid c2 else c2) :=
    ite_cases (fun _ => walk_urlencQueryCallback K.toCbRel ..) fun _ => K.refl _
  exact K.andThen _ _ _ (K.trans k3 (walk_runCallback K.toCbRel ..)) fun c3 => K.toState c3 _ hS

end

theorem ReqFnRel.mono {S : ReqState → Prop} {Rel' : Conn → Conn → Prop} (K : ReqFnRel S Rel) (h : ∀ {c c'}, Rel c c' → Rel' c c')
    (trans : ∀ {a b c}, Rel' a b → Rel' b c → Rel' a c) : ReqFnRel S Rel' where
  toCbRel := K.toCbRel.mono h trans
  aux e := h (K.aux e)
  toState c s hs := h (K.toState c s hs)
  clearIn c := h (K.clearIn c)

/-- what the request side's transaction-level functions leave alone: the request direction's record but for `in_tx`, the data receiver,
    the pending header and the look-ahead byte; the response direction's record but for `out_tx`; the response parser's state. -/
@[reducible] def ReqQuiet (c c' : Conn) : Prop :=
  (c'.inn.eraseAux.eraseTx, c'.out.eraseTx, c'.outState) = (c.inn.eraseAux.eraseTx, c.out.eraseTx, c.outState)

theorem ReqQuiet.trans {a b c : Conn} (h1 : ReqQuiet a b) (h2 : ReqQuiet b c) : ReqQuiet a c := Eq.trans h2 h1

theorem ReqQuiet.of_inert {c c' : Conn} (h : Inert c c') : ReqQuiet c c' := by
  have h1 : c'.inn.eraseAux.eraseTx = c.inn.eraseAux.eraseTx := congrArg Dir.eraseAux h.1.1
  unfold ReqQuiet
  rw [h1, h.1.2, h.2.2]

/-- ... and the request parser's own state they leave as it is or move to a state of `S`. The strongest relation these functions keep
    among those on the two direction records and the two parser states: the relations "`c'` is `c` as far as ... goes" that read nothing else (`KeepI`,
    `KeepO`, `ReqFrame`, `Still`, `StTo S`) are weakenings, so for them these functions are walked once, here. A function that does not
    move the parser has `S := fun _ => False`. -/
def ReqTx (S : ReqState → Prop) (c c' : Conn) : Prop := ReqQuiet c c' ∧ StTo S c c'

section
variable {S : ReqState → Prop}

theorem ReqTx.trans {a b c : Conn} (h1 : ReqTx S a b) (h2 : ReqTx S b c) : ReqTx S a c := ⟨h1.1.trans h2.1, h1.2.trans h2.2⟩
theorem ReqTx.inState {c c' : Conn} (h : ReqTx (fun _ => False) c c') : c'.inState = c.inState := h.2.elim id False.elim

/-- a step that writes only what neither part reads -/
theorem ReqTx.of_eq {c c' : Conn}
    (h : (c'.inn.eraseAux.eraseTx, c'.out.eraseTx, c'.outState, c'.inState) = (c.inn.eraseAux.eraseTx, c.out.eraseTx, c.outState, c.inState)) :
    ReqTx S c c' :=
  ⟨congrArg (fun v : Dir × Dir × ResState × ReqState => (v.1, v.2.1, v.2.2.1)) h, .inl (congrArg (·.2.2.2) h)⟩

theorem reqTx_cb (S : ReqState → Prop) : CbRel (ReqTx S) := inert_cb.mono (fun h => ⟨.of_inert h, .inl h.2.1⟩) ReqTx.trans

theorem reqTx_fn (S : ReqState → Prop) : ReqFnRel S (ReqTx S) where
  toCbRel := reqTx_cb S
  aux h := .of_eq (congrArg (fun x : Conn => (x.inn.eraseTx, x.out.eraseTx, x.outState, x.inState)) h)
  toState _ _ h := ⟨rfl, .inr h⟩
  clearIn _ := .of_eq rfl

end

theorem reqTx_reqProcessBodyData (cfg : Cfg) (data : Option Bytes) (g : Nat) (c : Conn) :
    ReqTx (fun _ => False) c (reqProcessBodyData cfg data g c).1 := walk_reqProcessBodyData (reqTx_cb _) ..
theorem reqTx_reqReceiverSend (l : Bool) (c : Conn) : ReqTx (fun _ => False) c (reqReceiverSend l c).1 :=
  walk_reqReceiverSend (reqTx_fn _) ..
theorem reqTx_reqReceiverSet (h : Hook) (c : Conn) : ReqTx (fun _ => False) c (reqReceiverSet h c).1 :=
  walk_reqReceiverSet (reqTx_fn _) ..
theorem reqTx_reqHandleStateChange (c : Conn) : ReqTx (fun _ => False) c (reqHandleStateChange c).1 :=
  walk_reqHandleStateChange (reqTx_fn _) c
theorem reqTx_txStateRequestStart (uid : Nat) (c : Conn) : ReqTx (· = .line) c (txStateRequestStart uid c).1 :=
  walk_txStateRequestStart (reqTx_fn _) uid c rfl
theorem reqTx_txStateRequestComplete (cfg : Cfg) (uid : Nat) (c : Conn) :
    ReqTx (fun s => s = .idle ∨ s = .ignoreDataAfter09) c (txStateRequestComplete cfg uid c).1 :=
  walk_txStateRequestComplete (reqTx_fn _) cfg uid c (.inl rfl) (.inr rfl)

/-- the body hooks keep what the counted body states read -/
theorem ReqTx.body {c c' : Conn} (h : ReqTx (fun _ => False) c c') :
    (c'.inn.read, c'.inn.len, c'.inn.bodyDataLeft, c'.inn.chunkedLength, c'.inState) =
      (c.inn.read, c.inn.len, c.inn.bodyDataLeft, c.inn.chunkedLength, c.inState) := by
  have e := congrArg (fun x : Dir × Dir × ResState => (x.1.read, x.1.len, x.1.bodyDataLeft, x.1.chunkedLength)) h.1
  rw [h.inState]
  exact congrArg (fun x : Int × Int × Int × Int => (x.1, x.2.1, x.2.2.1, x.2.2.2, c.inState)) e

/-- a state without the response side's own bookkeeping: receiver and pending header, the copy of the Content-Length, the parser's
    previous state, the note to stop at the end of the transaction, the decompressor chain -/
def resCore (c : Conn) : Conn :=
  { c with out := { c.out.eraseAux with contentLength := 0 }, outStatePrev := none, outDataOtherAtTxEnd := false, outDecs := [],
           outDecompressor := false }

@[reducible] def StToO (S : ResState → Prop) (c c' : Conn) : Prop := c'.outState = c.outState ∨ S c'.outState

theorem StToO.refl {S : ResState → Prop} (c : Conn) : StToO S c c := .inl rfl
theorem StToO.trans {S : ResState → Prop} {a b c : Conn} (h1 : StToO S a b) (h2 : StToO S b c) : StToO S a c := by
  rcases h2 with h2 | h2
  · rcases h1 with h1 | h1
    · exact .inl (h2.trans h1)
    · exact .inr (h2 ▸ h1)
  · exact .inr h2
theorem StToO.mono {S S' : ResState → Prop} {c c' : Conn} (h : StToO S c c') (hs : ∀ s, S s → S' s) : StToO S' c c' :=
  h.imp_right (hs _)

/-- the response side's counterpart of `ReqFnRel`. `bodyLeft` is the one write of a counted amount these functions make (HTTP/0.9, the
    parser already in RES_BODY_IDENTITY_STREAM_CLOSE).
    Instances: `keeps_fnO` (Lemmas/ConnSweepOut.lean), and `resTx_fn`, of which every relation that reads only the two direction
    records and the two parser states is a weakening (`ResFnRel.mono`). -/
structure ResFnRel (S : ResState → Prop) (Rel : Conn → Conn → Prop) : Prop extends CbRel Rel where
  aux : ∀ {c c' : Conn}, resCore c' = resCore c → Rel c c'
  toState : ∀ (c : Conn) (s : ResState), S s → Rel c { c with outState := s }
  clearOut : ∀ c : Conn, Rel c { c with out := { c.out with tx := none } }
  bodyLeft : ∀ (c : Conn) (n : Int), S c.outState → Rel c { c with out := { c.out with bodyDataLeft := n } }

section
variable {S : ResState → Prop}

theorem walk_resReceiverSend (K : ResFnRel S Rel) (l : Bool) (c : Conn) : Rel c (resReceiverSend l c).1 := by
  unfold resReceiverSend
  cases c.out.receiverHook with
  | none => exact K.refl c
  | some h =>
    apply K.andThen
    · exact walk_runCallback K.toCbRel ..
    · intro c2; exact K.aux rfl

theorem walk_resReceiverFinalizeClear (K : ResFnRel S Rel) (c : Conn) : Rel c (resReceiverFinalizeClear c).1 := by
  unfold resReceiverFinalizeClear
  cases c.out.receiverHook with
  | none => exact K.refl c
  | some h => exact K.trans (walk_resReceiverSend K true c) (K.aux rfl)

theorem walk_resReceiverSet (K : ResFnRel S Rel) (h : Hook) (c : Conn) : Rel c (resReceiverSet h c).1 := by
  unfold resReceiverSet
  exact K.trans (walk_resReceiverFinalizeClear K c) (K.aux rfl)

theorem walk_resFlushHeader (K : ResFnRel S Rel) (c : Conn) : Rel c (resFlushHeader c).1 := by
  unfold resFlushHeader
  cases c.out.header with
  | none => exact K.refl c
  | some h =>
    simp only
    have := walk_processResponseHeader K.toCbRel h c
    generalize processResponseHeader h c = r at this ⊢
    exact ite_fst (fun _ => this) fun _ => K.trans this (K.aux rfl)

theorem walk_resHeaderLine (K : ResFnRel S Rel) (uid : Nat) (line : Bytes) (c : Conn) : Rel c (resHeaderLine uid line c).1 := by
  unfold resHeaderLine
  refine ite_fst (fun _ => ?_) fun _ => ?_
  · refine K.andThen _ _ _ (walk_resFlushHeader K c) fun c1 => ?_
    have k : Rel c1 { c1 with out := (c1.out.peekSet).1 } := K.aux rfl
    simp only
    refine ite_fst (fun _ => ?_) fun _ => K.trans k (K.aux rfl)
    have e := K.trans k (walk_processResponseHeader K.toCbRel line _)
    generalize processResponseHeader line _ = r at e ⊢
    exact ite_fst (fun _ => e) fun _ => e
  · have fold := K.modTx uid (fun t => { t with flags := t.flags ||| INVALID_FOLDING }) c
    cases c.out.header with
    | none => exact K.trans fold (K.aux rfl)
    | some h =>
      simp only
      refine ite_fst (fun _ => ?_) fun _ => ite_fst (fun _ => K.aux rfl) fun _ => K.refl c
      have e := K.trans fold (walk_processResponseHeader K.toCbRel h _)
      generalize processResponseHeader h _ = r at e ⊢
      exact ite_fst (fun _ => e) fun _ => K.trans e (K.aux rfl)

theorem walk_resHandleStateChange (K : ResFnRel S Rel) (c : Conn) : Rel c (resHandleStateChange c).1 := by
  unfold resHandleStateChange
  refine ite_fst (fun _ => K.refl c) fun _ => ?_
  refine K.andThen _ _ _ ?_ fun _ => K.aux rfl
  refine ite_fst (fun _ => ?_) fun _ => K.refl c
  refine ite_fst (fun _ => K.refl c) fun _ => ?_
  refine ite_fst (fun _ => walk_resReceiverSet K _ c) fun _ => ?_
  exact ite_fst (fun _ => walk_resReceiverSet K _ c) fun _ => K.refl c

theorem walk_txStateResponseLine (K : ResFnRel S Rel) (uid : Nat) (c : Conn) : Rel c (txStateResponseLine uid c).1 := by
  unfold txStateResponseLine
  refine K.trans ?_ (walk_runCallback K.toCbRel ..)
  exact ite_cases (fun _ => K.modTx _ _ c) fun _ => K.refl c

theorem walk_txStateResponseHeaders (K : ResFnRel S Rel) (cfg : Cfg) (uid : Nat) (c : Conn) :
    Rel c (txStateResponseHeaders cfg uid c).1 := by
  unfold txStateResponseHeaders
  rcases responseNeedsDecompressor cfg ((c.findTx uid).getD { uid := uid }) with ⟨enc, needs⟩
  simp only
  apply K.andThen
  · exact K.trans (K.modTx uid _ c) (walk_resReceiverFinalizeClear K _)
  · intro c1
    apply K.andThen _ _ _ (walk_runCallback K.toCbRel ..)
    intro c2
    refine ite_fst (fun _ => ?_) fun _ => K.refl _
    refine ite_fst (fun _ => K.aux rfl) fun _ => ?_
    cases ceChain cfg ((getHeaderC ((c.findTx uid).getD { uid := uid }).resHeaders (b!"content-encoding")).map (·.value) |>.getD []) with
    | nil => exact K.aux rfl
    | cons ty rest =>
      exact K.trans (K.aux (c' := { c2 with outDecs := (ty :: rest).map (decCreate cfg), outDecompressor := true }) rfl)
        (K.modTx uid _ _)

/-- htp_tx_state_response_start stores `uid` in `out_tx`: its callers have already done so -/
theorem walk_txStateResponseStart (K : ResFnRel S Rel) (uid : Nat) (c : Conn) (he : c.out.tx = some uid)
    (h1 : S .bodyIdentityStreamClose := by trivial) (h2 : S .line := by trivial) : Rel c (txStateResponseStart uid c).1 := by
  unfold txStateResponseStart
  have e : ({ c with out := { c.out with tx := some uid } } : Conn) = c := by rw [← he]
  simp only [e]
  apply K.andThen _ _ _ (walk_runCallback K.toCbRel ..)
  intro c1
  refine ite_fst (fun _ => ?_) fun _ => ?_
  · exact K.trans (K.modTx uid _ c1) (K.trans (K.toState _ .bodyIdentityStreamClose h1) (K.bodyLeft _ _ h1))
  · exact K.trans (K.modTx uid _ c1) (K.toState _ _ h2)

theorem walk_txStateResponseCompleteEx (K : ResFnRel S Rel) (cfg : Cfg) (uid : Nat) (c : Conn) (h : S .idle := by trivial) :
    Rel c (txStateResponseCompleteEx cfg uid c).1 := by
  unfold txStateResponseCompleteEx
  apply K.andThen
  · refine ite_fst (fun _ => ?_) fun _ => K.refl c
    apply K.andThen
    · refine K.trans ?_ (walk_runCallback K.toCbRel ..)
      refine K.trans (K.modTx uid (fun t => { t with resProgress := 5 }) c) ?_
      exact ite_cases (fun _ => walk_resProcessBodyData K.toCbRel ..) fun _ => K.refl _
    · intro c1; exact walk_resReceiverFinalizeClear K _
  · intro c1
    refine ite_fst (fun _ => K.refl _) fun _ => ite_fst (fun _ => K.aux rfl) fun _ => ?_
    apply K.andThen _ _ _ (walk_txFinalize K.toCbRel ..)
    intro c2
    exact K.trans (K.clearOut c2) (K.toState _ _ h)

theorem ResFnRel.mono {Rel' : Conn → Conn → Prop} (K : ResFnRel S Rel) (h : ∀ {c c'}, Rel c c' → Rel' c c')
    (trans : ∀ {a b c}, Rel' a b → Rel' b c → Rel' a c) : ResFnRel S Rel' where
  toCbRel := K.toCbRel.mono h trans
  aux e := h (K.aux e)
  toState c s hs := h (K.toState c s hs)
  clearOut c := h (K.clearOut c)
  bodyLeft c n hs := h (K.bodyLeft c n hs)

/-- the writes of RES_BODY_DETERMINE that are not the response parser's own: a refused CONNECT and 101 Switching Protocols wake the
    request direction (unless it is in ERROR or STOP), a 4xx answer to `Expect: 100-continue` forces the request parser into
    REQ_FINALIZE, 101 writes the response direction's stream status. Instances: inside the `ResRelS` ones (Lemmas/BufInvOut.lean, ConnSweepOut.lean, HistoryFrames.lean), and one
    for `KeepO` inside `keepO_resBodyDetermine` (Lemmas/BufInvOut.lean). -/
structure ResDetRel (Rel : Conn → Conn → Prop) : Prop where
  wake : ∀ (c : Conn) (s : Nat), c.inn.status ≠ STREAM_ERROR → c.inn.status ≠ STREAM_STOP → Rel c { c with inn := { c.inn with status := s } }
  inFinalize : ∀ c : Conn, Rel c { c with inState := .finalize }
  status : ∀ (c : Conn) (s : Nat), Rel c { c with out := { c.out with status := s } }

theorem walk_resCl (K : ResFnRel S Rel) (cl ct : Option Parse.Header) (uid : Nat) (c : Conn) (hS : ∀ s, S s) :
    Rel c (resCl cl ct uid c).1 := by
  unfold resCl
  cases cl with
  | some clh =>
    simp -zeta only
    extract_lets c1 n c2 src c3
    have h2 : Rel c c2 := K.trans (K.modTx ..) (K.modTx ..)
    have h3 : Rel c c3 :=
      K.trans h2 (K.trans (K.aux (c' := { c2 with out := { c2.out with contentLength := n } }) rfl) (K.bodyLeft _ n (hS _)))
    clear_value c1 c2 c3
    refine ite_fst (fun _ => h2) fun _ => ite_fst (fun _ => ?_) fun _ => K.trans h3 (K.toState _ _ (hS _))
    exact K.trans h3 (K.trans (K.toState _ _ (hS _)) (K.modTx ..))
  | none =>
    simp only
    refine ite_fst (fun _ => K.refl c) fun _ => ?_
    exact K.trans (K.modTx ..) (K.trans (K.toState _ .bodyIdentityStreamClose (hS _)) (K.bodyLeft _ _ (hS _)))

theorem walk_resFraming (K : ResFnRel S Rel) (te cl ct : Option Parse.Header) (uid : Nat) (c : Conn) (hS : ∀ s, S s) :
    Rel c (resFraming te cl ct uid c).1 := by
  unfold resFraming
  cases te with
  | none => exact walk_resCl K cl ct uid c hS
  | some te' => exact ite_fst (fun _ => K.trans (K.modTx ..) (K.toState _ _ (hS _))) fun _ => walk_resCl K cl ct uid c hS

theorem walk_resNoBody (K : ResFnRel S Rel) (uid : Nat) (t : Tx) (te cl : Option Parse.Header) (c : Conn) (hS : S .finalize := by trivial) :
    Rel c (resNoBody uid t te cl c) := by
  unfold resNoBody
  -- HEAD, and 1xx / 204 / 304 without framing headers, end the message: RES_FINALIZE and the coding NO_BODY; otherwise nothing
  have fin : Rel c (({ c with outState := .finalize } : Conn).modTx uid (fun t => { t with resTransferCoding := CODING_NO_BODY })) :=
    K.trans (K.toState c _ hS) (K.modTx ..)
  exact ite_cases (fun _ => fin) fun _ => ite_cases (fun _ => ite_cases (fun _ => fin) fun _ => K.refl c) fun _ => K.refl c

theorem walk_resFramingStep (K : ResFnRel S Rel) (uid : Nat) (t : Tx) (te cl : Option Parse.Header) (c : Conn) (hS : ∀ s, S s) :
    Rel c (resFramingStep uid t te cl c).1 := by
  unfold resFramingStep
  refine ite_fst (fun _ => ?_) fun _ => K.refl c
  simp only
  refine K.trans ?_ (walk_resFraming K _ _ _ _ _ hS)
  split
  · exact K.modTx ..
  · exact K.refl c

theorem walk_resRefusedConnect (K : ResFnRel S Rel) (D : ResDetRel Rel) (t : Tx) (c : Conn) : Rel c (resRefusedConnect t c) := by
  unfold resRefusedConnect
  refine ite_cases (fun _ => ?_) fun _ => K.refl c
  refine K.trans (ite_cases (P := fun x : Conn => Rel c x) (fun h => ?_) fun _ => K.refl c) (K.aux rfl)
  simp only [Bool.and_eq_true, bne_iff_ne, ne_eq] at h
  exact D.wake c _ h.1 h.2

theorem walk_resSwitchTunnel (K : ResFnRel S Rel) (D : ResDetRel Rel) (c : Conn) (hS : S .finalize := by trivial) :
    Rel c (resSwitchTunnel c) := by
  unfold resSwitchTunnel
  refine K.trans (K.trans (K.toState c _ hS) (ite_cases (P := fun x : Conn => Rel { c with outState := .finalize } x) (fun h => ?_)
    fun _ => K.refl _)) (D.status _ _)
  simp only [Bool.and_eq_true, bne_iff_ne, ne_eq] at h
  exact D.wake _ _ h.1 h.2

theorem walk_resExpectShortcut (K : ResFnRel S Rel) (D : ResDetRel Rel) (t : Tx) (c : Conn) : Rel c (resExpectShortcut t c) := by
  unfold resExpectShortcut
  refine ite_cases (fun _ => ?_) fun _ => K.refl c
  cases getHeaderC t.reqHeaders (b!"expect") with
  | none => exact K.refl c
  | some e => exact ite_cases (fun _ => D.inFinalize c) fun _ => K.refl c

theorem walk_resBodyDetermineRest (K : ResFnRel S Rel) (D : ResDetRel Rel) (cfg : Cfg) (uid : Nat) (t : Tx) (c : Conn) (hS : ∀ s, S s) :
    Rel c (resBodyDetermineRest cfg uid t c).1 := by
  unfold resBodyDetermineRest
  extract_lets c1 cl te is100
  have k0 : Rel c c1 := walk_resRefusedConnect K D t c
  clear_value c1 is100
  refine ite_fst (fun _ => ?_) fun _ => ite_fst (fun _ => ?_) fun _ => ?_
  · exact K.trans (K.trans k0 (walk_resSwitchTunnel K D _ (hS _))) (walk_txStateResponseHeaders K cfg _ _)
  · exact K.trans (K.trans k0 (K.modTx ..)) (K.toState _ _ (hS _))
  · refine K.andThen _ _ _ ?_ fun c1 => walk_txStateResponseHeaders K cfg _ _
    exact K.trans (K.trans (K.trans k0 (walk_resExpectShortcut K D t _)) (walk_resNoBody K _ _ _ _ _ (hS _))) (walk_resFramingStep K _ _ _ _ _ hS)

theorem walk_resBodyDetermine (K : ResFnRel S Rel) (D : ResDetRel Rel) (cfg : Cfg) (c : Conn) (hS : ∀ s, S s := by exact fun _ => trivial) :
    Rel c (resBodyDetermine cfg c).1 := by
  unfold resBodyDetermine
  cases c.out.tx with
  | none => exact K.refl c
  | some uid =>
    simp only
    refine ite_fst (fun _ => ?_) fun _ => walk_resBodyDetermineRest K D cfg _ _ _ hS
    exact K.trans (K.toState c _ (hS _)) (walk_txStateResponseHeaders K cfg _ _)

end

/-- what a direction record's cursor predicates and the driver read: stream status, chunk, cursors, line buffer -/
@[reducible] def Dir.curView (d : Dir) : Nat × Bytes × Bool × Int × Int × Int × Option Bytes :=
  (d.status, d.cur, d.curNull, d.len, d.read, d.consume, d.buf)

/-- the response side's counterpart of `ReqQuiet`: stream status, chunk, cursors, line buffer and chunk length of the response
    direction; the request direction's record but for `in_tx`; the request parser's state. -/
@[reducible] def ResQuiet (c c' : Conn) : Prop :=
  (c'.out.curView, c'.inn.eraseTx, c'.inState, c'.out.chunkedLength) = (c.out.curView, c.inn.eraseTx, c.inState, c.out.chunkedLength)

theorem ResQuiet.trans {a b c : Conn} (h1 : ResQuiet a b) (h2 : ResQuiet b c) : ResQuiet a c := Eq.trans h2 h1

theorem ResQuiet.of_inert {c c' : Conn} (h : Inert c c') : ResQuiet c c' := by
  have h1 : c'.out.curView = c.out.curView := (congrArg Dir.curView h.1.2 :)
  have h2 : c'.out.chunkedLength = c.out.chunkedLength := (congrArg Dir.chunkedLength h.1.2 :)
  unfold ResQuiet
  rw [h1, h.1.1, h.2.1, h2]

/-- ... and the response parser's own state they leave as it is or move to a state of `S`, and the amount an identity body still owes
    they leave as it is unless the parser is in a state of `S` afterwards (htp_tx_state_response_start sets it for HTTP/0.9). The
    counterpart of `ReqTx`: `KeepO`, `KeepOS`, `ResFrame`, `Still`, `StToO S` are weakenings. -/
def ResTx (S : ResState → Prop) (c c' : Conn) : Prop :=
  ResQuiet c c' ∧ StToO S c c' ∧ (c'.out.bodyDataLeft = c.out.bodyDataLeft ∨ S c'.outState)

section
variable {S : ResState → Prop}

theorem ResTx.trans {a b c : Conn} (h1 : ResTx S a b) (h2 : ResTx S b c) : ResTx S a c := by
  refine ⟨h1.1.trans h2.1, h1.2.1.trans h2.2.1, ?_⟩
  -- the amount was written on the way only if the parser was in a state of `S` then, and it stayed there or moved within `S`
  rcases h2.2.2 with e2 | s2
  · rcases h1.2.2 with e1 | s1
    · exact .inl (e2.trans e1)
    · exact .inr (h2.2.1.elim (fun e => e ▸ s1) id)
  · exact .inr s2
theorem ResTx.outState {c c' : Conn} (h : ResTx (fun _ => False) c c') : c'.outState = c.outState := h.2.1.elim id False.elim

theorem ResTx.of_eq {c c' : Conn}
    (h : (c'.out.curView, c'.inn.eraseTx, c'.inState, c'.out.chunkedLength, c'.outState, c'.out.bodyDataLeft) =
      (c.out.curView, c.inn.eraseTx, c.inState, c.out.chunkedLength, c.outState, c.out.bodyDataLeft)) : ResTx S c c' :=
  ⟨congrArg (fun v : (Nat × Bytes × Bool × Int × Int × Int × Option Bytes) × Dir × ReqState × Int × ResState × Int =>
      (v.1, v.2.1, v.2.2.1, v.2.2.2.1)) h, .inl (congrArg (·.2.2.2.2.1) h), .inl (congrArg (·.2.2.2.2.2) h)⟩

theorem resTx_cb (S : ResState → Prop) : CbRel (ResTx S) :=
  inert_cb.mono (fun h => ⟨.of_inert h, .inl h.2.2, .inl (congrArg Dir.bodyDataLeft h.1.2 :)⟩) ResTx.trans

theorem resTx_fn (S : ResState → Prop) : ResFnRel S (ResTx S) where
  toCbRel := resTx_cb S
  aux h := .of_eq
    (congrArg (fun x : Conn => (x.out.curView, x.inn.eraseTx, x.inState, x.out.chunkedLength, x.outState, x.out.bodyDataLeft)) h :)
  toState _ _ h := ⟨rfl, .inr h, .inr h⟩
  clearOut _ := .of_eq rfl
  bodyLeft _ _ h := ⟨rfl, .inl rfl, .inr h⟩

end

theorem resTx_resProcessBodyData (cfg : Cfg) (data : Option Bytes) (c : Conn) :
    ResTx (fun _ => False) c (resProcessBodyData cfg data c).1 := walk_resProcessBodyData (resTx_cb _) ..
theorem resTx_resProcessBodyDataGap (cfg : Cfg) (data : Option Bytes) (g : Nat) (c : Conn) :
    ResTx (fun _ => False) c (resBodyIdentityClKnown.resProcessBodyDataGap cfg data g c).1 := walk_resProcessBodyDataGap (resTx_cb _) ..
theorem resTx_resReceiverSend (l : Bool) (c : Conn) : ResTx (fun _ => False) c (resReceiverSend l c).1 :=
  walk_resReceiverSend (resTx_fn _) ..
theorem resTx_resReceiverSet (h : Hook) (c : Conn) : ResTx (fun _ => False) c (resReceiverSet h c).1 :=
  walk_resReceiverSet (resTx_fn _) ..
theorem resTx_txStateResponseHeaders (cfg : Cfg) (uid : Nat) (c : Conn) :
    ResTx (fun _ => False) c (txStateResponseHeaders cfg uid c).1 := walk_txStateResponseHeaders (resTx_fn _) ..
theorem resTx_txStateResponseCompleteEx (cfg : Cfg) (uid : Nat) (c : Conn) :
    ResTx (· = .idle) c (txStateResponseCompleteEx cfg uid c).1 := walk_txStateResponseCompleteEx (resTx_fn _) cfg uid c rfl

/-- (not `walk_txStateResponseStart`: that one asks for `c.out.tx = some uid`, which only a relation that looks at `out_tx` needs) -/
theorem resTx_txStateResponseStart (uid : Nat) (c : Conn) :
    ResTx (fun s => s = .line ∨ s = .bodyIdentityStreamClose) c (txStateResponseStart uid c).1 := by
  unfold txStateResponseStart
  refine ResTx.trans (b := { c with out := { c.out with tx := some uid } }) (.of_eq rfl) ?_
  apply (resTx_cb _).andThen _ _ _ (walk_runCallback (resTx_cb _) ..)
  intro c1
  exact ite_fst (fun _ => ⟨rfl, .inr (.inr rfl), .inr (.inr rfl)⟩) fun _ => ⟨rfl, .inr (.inl rfl), .inl rfl⟩

theorem resTx_resHeaderLine (uid : Nat) (line : Bytes) (c : Conn) : ResTx (fun _ => False) c (resHeaderLine uid line c).1 :=
  walk_resHeaderLine (resTx_fn _) uid line c
theorem resTx_resHandleStateChange (c : Conn) : ResTx (fun _ => False) c (resHandleStateChange c).1 :=
  walk_resHandleStateChange (resTx_fn _) c

theorem ResTx.body {c c' : Conn} (h : ResTx (fun _ => False) c c') :
    (c'.out.read, c'.out.len, c'.out.bodyDataLeft, c'.out.chunkedLength, c'.outState) =
      (c.out.read, c.out.len, c.out.bodyDataLeft, c.out.chunkedLength, c.outState) := by
  have e := congrArg (fun x : (Nat × Bytes × Bool × Int × Int × Int × Option Bytes) × Dir × ReqState × Int =>
    (x.1.2.2.2.2.1, x.1.2.2.2.1, x.2.2.2)) h.1
  have e1 : c'.out.bodyDataLeft = c.out.bodyDataLeft := h.2.2.elim id False.elim
  rw [h.outState, e1]
  exact congrArg (fun x : Int × Int × Int => (x.1, x.2.1, c.out.bodyDataLeft, x.2.2, c.outState)) e

end Htp.Conn
