/- The string builder refines a list of pieces (for Props/C17). -/
import HtpModel.Prim.Builder
import HtpModel.Lemmas.ListFacts
namespace Htp.Builder
open Htp Htp.Ring

theorem piecesList_eq (b : Builder) : piecesList b = Ring.abs b.pieces :=
  filterMap_eq_map_of_some _ _ _ fun i hi => by
    have h : i < b.pieces.curSize := List.mem_range.mp hi
    simp [Ring.get, Nat.not_le.mpr h]

theorem foldl_len (ps : List Bytes) (n : Nat) : ps.foldl (fun n p => n + p.length) n = n + ps.flatten.length := by
  induction ps generalizing n with
  | nil => rfl
  | cons p t ih => rw [List.foldl_cons, ih, List.flatten_cons, List.length_append, Nat.add_assoc]

theorem foldl_noex (total : Nat) (ps : List Bytes) (acc : Bytes) (h : acc.length + ps.flatten.length ≤ total) :
    ps.foldl (fun acc p => Bstr.addMemNoex total acc p) acc = acc ++ ps.flatten := by
  induction ps generalizing acc with
  | nil => simp
  | cons p t ih =>
    rw [List.flatten_cons, List.length_append] at h
    have e : Bstr.addMemNoex total acc p = acc ++ p := by
      unfold Bstr.addMemNoex
      rw [if_neg (by omega)]
    rw [List.foldl_cons, List.flatten_cons, e, ih _ (by rw [List.length_append]; omega), List.append_assoc]

/-- bstr_builder_to_str: nothing is cut by the non-expanding append, because the buffer was sized with the sum of the
    lengths -/
theorem toStr_eq (b : Builder) : toStr b = (Ring.abs b.pieces).flatten := by
  unfold toStr
  simp only [piecesList_eq]
  rw [foldl_len]
  have := foldl_noex (0 + (Ring.abs b.pieces).flatten.length) (Ring.abs b.pieces) [] (by simp)
  simpa using this

end Htp.Builder
