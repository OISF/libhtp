/- The cursor primitives of a direction record - IN_COPY_BYTE_OR_RETURN, IN_NEXT_BYTE_OR_RETURN, htp_connp_req_buffer /
   htp_connp_res_buffer, htp_connp_req_consolidate_data - as equations: what the record is after each of them. At the end the moves the
   state functions make on a record as one relation (`Dir.Step`; `consolidate` is a step or nothing: `Dir.consolidate_step`), of which a
   predicate or relation on `Dir` is asked once, and what no move writes (`Dir.Step.frame`). -/
import HtpModel.Conn.Req
namespace Htp.Conn
open Htp Htp.Gen

theorem Dir.peek_some_lt {d : Dir} {b : UInt8} (h : d.peek = some b) : d.read < d.len := by
  unfold Dir.peek at h
  split at h
  · cases h
  · omega

theorem Dir.peek_none {d : Dir} (h0 : 0 ≤ d.read) (hl : d.len ≤ (d.cur.length : Int)) (h : d.peek = none) : d.len ≤ d.read := by
  unfold Dir.peek at h
  split at h
  · omega
  · rw [List.getElem?_eq_getElem (by omega)] at h
    cases h

/-- (`d'.nextByte` on the right: the byte recorded is the byte returned, or 0 in a gap) -/
theorem Dir.copyByte_eq {d d' : Dir} {b : UInt8} (h : d.copyByte = some (d', b)) :
    d.read < d.len ∧ d' = { d with nextByte := d'.nextByte, read := d.read + 1 } ∧ b = (d.cur[d.read.toNat]?).getD 0 := by
  unfold Dir.copyByte at h
  split at h
  · refine ⟨‹_›, ?_⟩
    split at h <;> (cases h; exact ⟨rfl, by simp [*]⟩)
  · cases h

theorem Dir.copyByte_none_iff {d : Dir} : d.copyByte = none ↔ d.len ≤ d.read := by
  unfold Dir.copyByte
  split
  · constructor
    · intro h; split at h <;> cases h
    · intro h; omega
  · exact ⟨fun _ => by omega, fun _ => rfl⟩

theorem Dir.copy_of_peek {d : Dir} {b : UInt8} (h : d.peek = some b) : (d.peekSet).1.copyByte ≠ none := fun hc => by
  have h1 := Dir.peek_some_lt h
  have h2 : d.len ≤ d.read := Dir.copyByte_none_iff.1 hc
  omega

theorem Dir.nextByteConsume_eq {d d' : Dir} {b : UInt8} (h : d.nextByteConsume = some (d', b)) :
    d.read < d.len ∧ d' = { d with nextByte := d'.nextByte, read := d.read + 1, consume := d.consume + 1 } := by
  unfold Dir.nextByteConsume at h
  cases hc : d.copyByte with
  | none => rw [hc] at h; cases h
  | some p =>
    rw [hc] at h
    cases h
    obtain ⟨hlt, e, _⟩ := Dir.copyByte_eq hc
    exact ⟨hlt, by rw [e]⟩

theorem Dir.nextByteConsume_of_copy {d d' : Dir} {b : UInt8} (h : d.copyByte = some (d', b)) :
    d.nextByteConsume = some ({ d' with consume := d'.consume + 1 }, b) := by
  unfold Dir.nextByteConsume; rw [h]

theorem Dir.nextByteConsume_none {d : Dir} (h : d.nextByteConsume = none) : d.len ≤ d.read := by
  unfold Dir.nextByteConsume at h
  cases hc : d.copyByte with
  | none => exact Dir.copyByte_none_iff.1 hc
  | some p => rw [hc] at h; cases h

theorem sizeOfInt_nonneg (x : Int) (h0 : 0 ≤ x) (h1 : x < 18446744073709551616) : sizeOfInt x = x.toNat := by
  unfold sizeOfInt
  rw [Int.emod_eq_of_lt h0 h1]

/-- the length htp_connp_req_buffer compares with the hard limit: bytes set aside so far, the unconsumed part of the chunk, the pending
    header -/
def Dir.bufferNeed (d : Dir) : Nat :=
  (d.buf.map (·.length)).getD 0 + sizeOfInt (d.read - d.consume) + (d.header.map (·.length)).getD 0

/-- htp_connp_req_buffer / htp_connp_res_buffer: nothing happens (NULL chunk; nothing unconsumed, on the request side), or the unconsumed
    part of the chunk is appended to the line buffer, within the limit -/
theorem Dir.buffer_eq {d d' : Dir} {hard : Nat} {s : Bool} (h : d.buffer hard s = some d') :
    (d' = d ∧ (d.curNull = true ∨ s = true ∧ sizeOfInt (d.read - d.consume) = 0)) ∨
    (d.curNull = false ∧ d.bufferNeed ≤ hard ∧
      d' = { d with buf := some (d.buf.getD [] ++ sliceCur d d.consume d.read), consume := d.read }) := by
  unfold Dir.buffer at h
  split at h
  · cases h; exact .inl ⟨rfl, .inl ‹_›⟩
  · simp only at h
    split at h
    · cases h
      rename_i h0
      simp only [Bool.and_eq_true, beq_iff_eq] at h0
      exact .inl ⟨rfl, .inr h0⟩
    · split at h
      · cases h
      · cases h
        exact .inr ⟨by simpa using ‹¬d.curNull = true›, Nat.le_of_not_gt ‹_›, rfl⟩

theorem Dir.buffer_same {d d' : Dir} {hard : Nat} {s : Bool} (h : d.buffer hard s = some d') :
    d' = { d with buf := d'.buf, consume := d'.consume } := by
  rcases Dir.buffer_eq h with ⟨rfl, _⟩ | ⟨_, _, rfl⟩ <;> rfl

/-- htp_connp_req_consolidate_data: with nothing set aside the data is the unconsumed part of the chunk and the record stays; otherwise
    the chunk's part is set aside too and the data is the line buffer -/
theorem Dir.consolidate_eq {d d' : Dir} {hard : Nat} {s : Bool} {data : Bytes} (h : d.consolidate hard s = some (d', data)) :
    (d.buf = none ∧ d' = d ∧ data = sliceCur d d.consume d.read) ∨
    (d.buf.isSome ∧ d.buffer hard s = some d' ∧ data = d'.buf.getD []) := by
  unfold Dir.consolidate at h
  cases hb : d.buf with
  | none => rw [hb] at h; cases h; exact .inl ⟨rfl, rfl, rfl⟩
  | some bb =>
    rw [hb] at h
    simp only at h
    cases hbu : d.buffer hard s with
    | none => rw [hbu] at h; cases h
    | some d1 => rw [hbu] at h; cases h; exact .inr ⟨rfl, rfl, rfl⟩

theorem Dir.consolidate_same {d d' : Dir} {hard : Nat} {s : Bool} {data : Bytes} (h : d.consolidate hard s = some (d', data)) :
    d' = { d with buf := d'.buf, consume := d'.consume } := by
  rcases Dir.consolidate_eq h with ⟨_, rfl, _⟩ | ⟨_, hb, _⟩
  · rfl
  · exact Dir.buffer_same hb

theorem sliceCur_len_le (d : Dir) (a b : Int) : (sliceCur d a b).length ≤ (b - a).toNat := by
  unfold sliceCur
  simp only [List.length_take]
  omega

/-- whenever the unconsumed part of the chunk is set aside, line buffer and pending header together are within the hard limit (the part
    is shorter than 2^64, so the size_t difference the C code adds up is its length) -/
theorem Dir.buffer_need_le {d d' : Dir} {hard : Nat} {s : Bool} (h : d.buffer hard s = some d')
    (hw : d.read - d.consume < 18446744073709551616) :
    d' = d ∨ (d'.buf.map (·.length)).getD 0 + (d'.header.map (·.length)).getD 0 ≤ hard := by
  rcases Dir.buffer_eq h with ⟨rfl, _⟩ | ⟨_, hle, rfl⟩
  · exact .inl rfl
  · right
    have hs := sliceCur_len_le d d.consume d.read
    have hsz : (d.read - d.consume).toNat ≤ sizeOfInt (d.read - d.consume) := by
      by_cases hneg : d.read - d.consume < 0
      · omega
      · rw [sizeOfInt_nonneg _ (by omega) hw]; omega
    unfold Dir.bufferNeed at hle
    simp only [Option.map_some, Option.getD_some, List.length_append]
    cases hbb : d.buf <;> simp_all <;> omega

theorem Dir.buffer_bound {d d' : Dir} {hard : Nat} {s : Bool} (h : d.buffer hard s = some d')
    (hw : d.read - d.consume < 18446744073709551616) (hb : (d.buf.map (·.length)).getD 0 ≤ hard) :
    (d'.buf.map (·.length)).getD 0 ≤ hard := by
  rcases Dir.buffer_need_le h hw with rfl | hle
  · exact hb
  · omega

theorem Dir.buffer_read_len {d d' : Dir} {hard : Nat} {s : Bool} (h : d.buffer hard s = some d') : d'.read = d.read ∧ d'.len = d.len := by
  rw [Dir.buffer_same h]; exact ⟨rfl, rfl⟩

theorem Dir.consolidate_read_len {d d' : Dir} {hard : Nat} {s : Bool} {data : Bytes} (h : d.consolidate hard s = some (d', data)) :
    d'.read = d.read ∧ d'.len = d.len := by
  rw [Dir.consolidate_same h]; exact ⟨rfl, rfl⟩

/-- **what a state function can do to its direction's record through the cursor primitives**, one move: copy a byte, take one (copy and
    consume), set the unconsumed part of the chunk aside (`hard` is the limit), drop the line buffer, consume `n` body bytes, give the
    whole chunk up as read. `B` says whether the cursors are known to be inside the chunk: then a body state advances only by an amount that
    fits. What a predicate or a relation has to know of the primitives is asked once, of this relation (`DirInv.step`, `ReqRel.cursor`,
    `ResRel.cursor`). -/
inductive Dir.Step (hard : Nat) (B : Prop) (d : Dir) : Dir → Prop
  | copy {d' : Dir} {b : UInt8} : d.copyByte = some (d', b) → Dir.Step hard B d d'
  | take {d' : Dir} {b : UInt8} : d.nextByteConsume = some (d', b) → Dir.Step hard B d d'
  | setAside {d' : Dir} {s : Bool} : d.buffer hard s = some d' → Dir.Step hard B d d'
  | clear : Dir.Step hard B d d.clearBuffer
  | advance (n : Int) : (B → d.read ≤ d.len → 0 ≤ n ∧ n ≤ d.len - d.read) → Dir.Step hard B d (d.advance n)
  | readAll (n : Int) : Dir.Step hard B d { d with read := d.len, nextByte := n }

/-- a move writes the look-ahead byte, the two offsets and the line buffer, nothing else: stream status, chunk, transaction, receiver,
    pending header and the amounts owed are as they were (`congrArg` of this) -/
theorem Dir.Step.frame {hard : Nat} {B : Prop} {d d' : Dir} (h : Dir.Step hard B d d') :
    d' = { d with nextByte := d'.nextByte, read := d'.read, consume := d'.consume, buf := d'.buf } := by
  cases h with
  | copy h => rw [(Dir.copyByte_eq h).2.1]
  | take h => rw [(Dir.nextByteConsume_eq h).2]
  | setAside h => rw [Dir.buffer_same h]
  | clear => rfl
  | advance n _ => rfl
  | readAll n => rfl

/-- a copy that also consumes is the one move IN_NEXT_BYTE_OR_RETURN -/
theorem Dir.Step.copyConsume {hard : Nat} {B : Prop} {d d' : Dir} {b : UInt8} (h : d.copyByte = some (d', b)) :
    Dir.Step hard B d { d' with consume := d'.consume + 1 } :=
  .take (Dir.nextByteConsume_of_copy h)

theorem Dir.consolidate_step {hard : Nat} {B : Prop} {d d' : Dir} {s : Bool} {data : Bytes} (h : d.consolidate hard s = some (d', data)) :
    d' = d ∨ Dir.Step hard B d d' := by
  rcases Dir.consolidate_eq h with ⟨_, e, _⟩ | ⟨_, hb, _⟩
  · exact .inl e
  · exact .inr (.setAside hb)

end Htp.Conn
