/- The model's larger functions cut into named parts, each tied to the model by an equation (`*_succ`, `*_eq`; `rfl` or one `unfold`):
   one pass of the `for (;;)` of htp_connp_req_data / htp_connp_res_data (the step it runs, the state-change hook, the status the call
   ends with on an answer other than HTP_OK); one turn of the loops of REQ_HEADERS, REQ_LINE, RES_LINE and RES_HEADERS; the phases of REQ_FINALIZE;
   the shape of a whole data call (`*DataCore_cases`, with the wake-up of the other direction as an equation, `reqWakeOther_eq`); the four counted body states as instances of one program (`takeBody`).
   With them stands `EolRes`, what is said of a result of `resHeadersEol`. -/
import HtpModel.Conn.Res
namespace Htp.Conn
open Htp Htp.Gen

/-- what a pass runs: the state function; during a gap only the states that take one (`none`: the call ends with CLOSED) -/
def reqPassStep (cfg : Cfg) (isGap : Bool) (c : Conn) : Option R :=
  if isGap then
    if c.inState == .bodyIdentity || c.inState == .ignoreDataAfter09 then some (reqStateFn cfg c)
    else if c.inState == .finalize then
      match c.inn.tx with
      | some uid => some (txStateRequestComplete cfg uid c)
      | none => some (c, .error)
    else none
  else some (reqStateFn cfg c)

theorem reqPassStep_cases {cfg : Cfg} {g : Bool} {c : Conn} {r : R} (h : reqPassStep cfg g c = some r) :
    r = reqStateFn cfg c ∨ (∃ uid, r = txStateRequestComplete cfg uid c) ∨ r = (c, .error) := by
  unfold reqPassStep at h
  split at h
  · split at h
    · exact Or.inl (Option.some.inj h).symm
    · split at h
      · split at h
        · exact Or.inr (Or.inl ⟨_, (Option.some.inj h).symm⟩)
        · exact Or.inr (Or.inr (Option.some.inj h).symm)
      · cases h
  · exact Or.inl (Option.some.inj h).symm

theorem reqStep_false {cfg : Cfg} {c : Conn} {r : R} (h : reqPassStep cfg false c = some r) : r = reqStateFn cfg c :=
  (Option.some.inj h).symm

/-- htp_req_handle_state_change, run after a step that answered OK outside tunnel mode -/
def reqPassHook (c : Conn) (rc : Rc) : R :=
  if rc == .ok then
    if c.inn.status == STREAM_TUNNEL then (c, .ok) else reqHandleStateChange c
  else (c, rc)

/-- the end of a call, on an answer `rc` other than HTP_OK: the status it writes and returns -/
def reqPassEnd (cfg : Cfg) (c : Conn) (rc : Rc) : Conn × Nat :=
  if rc == .data || rc == .dataBuffer then
    let (c, _) := reqReceiverSend false c
    if rc == .dataBuffer then
      match c.inn.buffer cfg.fieldLimitHard true with
      | none => ({ c with inn := { c.inn with status := STREAM_ERROR } }, STREAM_ERROR)
      | some d => ({ c with inn := { d with status := STREAM_DATA } }, STREAM_DATA)
    else ({ c with inn := { c.inn with status := STREAM_DATA } }, STREAM_DATA)
  else if rc == .dataOther then
    if c.inn.read ≥ c.inn.len then ({ c with inn := { c.inn with status := STREAM_DATA } }, STREAM_DATA)
    else ({ c with inn := { c.inn with status := STREAM_DATA_OTHER } }, STREAM_DATA_OTHER)
  else if rc == .stop then ({ c with inn := { c.inn with status := STREAM_STOP } }, STREAM_STOP)
  else ({ c with inn := { c.inn with status := STREAM_ERROR } }, STREAM_ERROR)

theorem reqDriverLoop_succ (cfg : Cfg) (g : Bool) (fuel : Nat) (c : Conn) :
    reqDriverLoop cfg g (fuel + 1) c =
      match reqPassStep cfg g c with
      | none => (c, STREAM_CLOSED)
      | some (c, rc) =>
        let (c, rc) := reqPassHook c rc
        if rc == .ok then
          if c.inn.status == STREAM_TUNNEL then (c, STREAM_TUNNEL) else reqDriverLoop cfg g fuel c
        else reqPassEnd cfg c rc := rfl

def reqPass (cfg : Cfg) (c : Conn) : R := reqPassHook (reqStateFn cfg c).1 (reqStateFn cfg c).2

theorem reqDriverLoop_data_succ (cfg : Cfg) (fuel : Nat) (c : Conn) :
    reqDriverLoop cfg false (fuel + 1) c =
      if (reqPass cfg c).2 == .ok then
        if (reqPass cfg c).1.inn.status == STREAM_TUNNEL then ((reqPass cfg c).1, STREAM_TUNNEL)
        else reqDriverLoop cfg false fuel (reqPass cfg c).1
      else reqPassEnd cfg (reqPass cfg c).1 (reqPass cfg c).2 := by
  rw [reqDriverLoop_succ]
  rfl

def resPassStep (cfg : Cfg) (isGap : Bool) (c : Conn) : Option R :=
  if isGap then
    if c.outState == .bodyIdentityClKnown || c.outState == .bodyIdentityStreamClose then some (resStateFn cfg c)
    else if c.outState == .finalize then
      match c.out.tx with
      | some uid => some (txStateResponseCompleteEx cfg uid c)
      | none => some (c, .error)
    else none
  else some (resStateFn cfg c)

theorem resPassStep_cases {cfg : Cfg} {g : Bool} {c : Conn} {r : R} (h : resPassStep cfg g c = some r) :
    r = resStateFn cfg c ∨ (∃ uid, r = txStateResponseCompleteEx cfg uid c) ∨ r = (c, .error) := by
  unfold resPassStep at h
  split at h
  · split at h
    · exact Or.inl (Option.some.inj h).symm
    · split at h
      · split at h
        · exact Or.inr (Or.inl ⟨_, (Option.some.inj h).symm⟩)
        · exact Or.inr (Or.inr (Option.some.inj h).symm)
      · cases h
  · exact Or.inl (Option.some.inj h).symm

theorem resStep_false {cfg : Cfg} {c : Conn} {r : R} (h : resPassStep cfg false c = some r) : r = resStateFn cfg c :=
  (Option.some.inj h).symm

/-- htp_res_handle_state_change -/
def resPassHook (c : Conn) (rc : Rc) : R :=
  if rc == .ok then
    if c.out.status == STREAM_TUNNEL then (c, .ok) else resHandleStateChange c
  else (c, rc)

/-- STOP is tested before DATA_OTHER here, after it in `reqPassEnd`, as in the two C functions -/
def resPassEnd (cfg : Cfg) (c : Conn) (rc : Rc) : Conn × Nat :=
  if rc == .data || rc == .dataBuffer then
    let (c, _) := resReceiverSend false c
    if rc == .dataBuffer then
      match c.out.buffer cfg.fieldLimitHard false with
      | none => ({ c with out := { c.out with status := STREAM_ERROR } }, STREAM_ERROR)
      | some d => ({ c with out := { d with status := STREAM_DATA } }, STREAM_DATA)
    else ({ c with out := { c.out with status := STREAM_DATA } }, STREAM_DATA)
  else if rc == .stop then ({ c with out := { c.out with status := STREAM_STOP } }, STREAM_STOP)
  else if rc == .dataOther then
    if c.out.read ≥ c.out.len then ({ c with out := { c.out with status := STREAM_DATA } }, STREAM_DATA)
    else ({ c with out := { c.out with status := STREAM_DATA_OTHER } }, STREAM_DATA_OTHER)
  else ({ c with out := { c.out with status := STREAM_ERROR } }, STREAM_ERROR)

theorem resDriverLoop_succ (cfg : Cfg) (g : Bool) (fuel : Nat) (c : Conn) :
    resDriverLoop cfg g (fuel + 1) c =
      match resPassStep cfg g c with
      | none => (c, STREAM_CLOSED)
      | some (c, rc) =>
        let (c, rc) := resPassHook c rc
        if rc == .ok then
          if c.out.status == STREAM_TUNNEL then (c, STREAM_TUNNEL) else resDriverLoop cfg g fuel c
        else resPassEnd cfg c rc := rfl

def resPass (cfg : Cfg) (c : Conn) : R := resPassHook (resStateFn cfg c).1 (resStateFn cfg c).2

theorem resDriverLoop_data_succ (cfg : Cfg) (fuel : Nat) (c : Conn) :
    resDriverLoop cfg false (fuel + 1) c =
      if (resPass cfg c).2 == .ok then
        if (resPass cfg c).1.out.status == STREAM_TUNNEL then ((resPass cfg c).1, STREAM_TUNNEL)
        else resDriverLoop cfg false fuel (resPass cfg c).1
      else resPassEnd cfg (resPass cfg c).1 (resPass cfg c).2 := by
  rw [resDriverLoop_succ]
  rfl

/-- one header line of REQ_HEADERS: a new header (the one before is flushed) or the continuation of a folded one -/
def reqHeaderLine (line : Bytes) (c : Conn) : R :=
  if Parse.isLineFolded line == some false then
    reqFlushHeader c >>? fun c =>
    let (d0, nb) := c.inn.peekSet
    let c := { c with inn := d0 }
    match nb with
    | some b =>
      if !isFoldingChar b then
        let (c, rc) := processRequestHeader line c
        if rc != .ok then (c, .error) else (c, .ok)
      else ({ c with inn := { c.inn with header := some line } }, .ok)
    | none => ({ c with inn := { c.inn with header := some line } }, .ok)
  else
    match c.inn.header with
    | none =>
      let c := c.modIn (fun t => { t with flags := t.flags ||| INVALID_FOLDING })
      ({ c with inn := { c.inn with header := some (line.dropWhile isFoldingChar) } }, .ok)
    | some h =>
      if h.length < MAX_HEADER_FOLDED then ({ c with inn := { c.inn with header := some (h ++ line) } }, .ok)
      else (c, .ok)

theorem reqHeadersLoop_succ (cfg : Cfg) (fuel : Nat) (c : Conn) :
    reqHeadersLoop cfg (fuel + 1) c =
      match c.inn.tx with
      | none => (c, .error)
      | some uid =>
        if c.inn.status == STREAM_CLOSED then
          reqFlushHeader c >>? fun c =>
            txStateRequestHeaders cfg uid ({ c with inn := c.inn.clearBuffer }.modIn (fun t => { t with reqProgress := 4 }))
        else
          match c.inn.copyByte with
          | none => (c, .dataBuffer)
          | some (d, b) =>
            if b != LF then reqHeadersLoop cfg fuel { c with inn := d } else
            match d.consolidate cfg.fieldLimitHard true with
            | none => ({ c with inn := d }, .error)
            | some (d2, data) =>
              if Parse.isLineTerminator cfg data false then
                reqFlushHeader { c with inn := d2 } >>? fun c => txStateRequestHeaders cfg uid { c with inn := c.inn.clearBuffer }
              else
                reqHeaderLine (Parse.chomp data).1 { c with inn := d2 } >>? fun c => reqHeadersLoop cfg fuel { c with inn := c.inn.clearBuffer } := by
  rw [reqHeadersLoop]
  rfl

theorem reqLineLoop_succ (cfg : Cfg) (fuel : Nat) (c : Conn) :
    reqLineLoop cfg (fuel + 1) c =
      if (c.inn.peekSet).1.status == STREAM_CLOSED && (c.inn.peekSet).2.isNone then reqLineComplete cfg { c with inn := (c.inn.peekSet).1 } else
      match (c.inn.peekSet).1.copyByte with
      | none => ({ c with inn := (c.inn.peekSet).1 }, .dataBuffer)
      | some (d, b) =>
        if b == LF then reqLineComplete cfg { c with inn := d } else reqLineLoop cfg fuel { c with inn := d } := rfl

/-- the look-ahead of REQ_FINALIZE on a stream that is not closed: `(state, complete the request now?)`, `none` when the bytes ran out -/
def reqFinalizePre (c : Conn) : Option (Conn × Bool) :=
  if c.inn.status != STREAM_CLOSED then
    let (d0, nbo) := c.inn.peekSet
    let c := { c with inn := d0 }
    match nbo with
    | none => some (c, true)
    | some nb =>
      if nb != LF || c.inn.consume ≥ c.inn.read then
        match reqFinalizeScan ((c.inn.len - c.inn.read).toNat + 2) c.inn with
        | none => none
        | some d => some ({ c with inn := d }, false)
      else some (c, false)
  else some (c, false)

/-- the last line looks like the start of a request (`none`: complete the request), or is unexpected body data -/
def reqFinalizeGo (c : Conn) (data : Bytes) : Option Conn :=
  let (mstart, pos, m) := probeMethod data
  if pos > mstart then
    if Parse.methodNumber m != M_UNKNOWN then none
    else some (if c.inn.bodyDataLeft ≤ 0 then c else { c with inn := { c.inn with bodyDataLeft := 1 } })
  else some c

/-- "adds linefeed to the buffer if there was one": the line that is handed on, `none` when the byte is not there yet -/
def reqFinalizeLine (cfg : Cfg) (c : Conn) (data : Bytes) : Option (Conn × Bytes) :=
  if c.inn.nextByte == 10 then
    match c.inn.copyByte with
    | none => none
    | some (d, _) =>
      match d.consolidate cfg.fieldLimitHard true with
      | some (d', data') => some ({ c with inn := d' }, data')
      | none => some ({ c with inn := d }, data)
  else some (c, data)

theorem reqFinalize_eq (cfg : Cfg) (c : Conn) :
    reqFinalize cfg c =
      match c.inn.tx with
      | none => (c, .error)
      | some uid =>
        match reqFinalizePre c with
        | none => ({ c with inn := { c.inn with read := c.inn.len, nextByte := -1 } }, .dataBuffer)
        | some (c, true) => txStateRequestComplete cfg uid c
        | some (c, false) =>
          match c.inn.consolidate cfg.fieldLimitHard true with
          | none => (c, .error)
          | some (d, data) =>
            if data.length == 0 then txStateRequestComplete cfg uid { c with inn := d } else
            match reqFinalizeGo { c with inn := d } data with
            | none => txStateRequestComplete cfg uid { c with inn := { d with bodyDataLeft := -1 } }
            | some c =>
              match reqFinalizeLine cfg c data with
              | none => (c, .dataBuffer)
              | some (c, data) =>
                ({ (reqProcessBodyData cfg (some data) 0 c).1 with inn := (reqProcessBodyData cfg (some data) 0 c).1.inn.clearBuffer },
                  (reqProcessBodyData cfg (some data) 0 c).2) := by
  unfold reqFinalize reqFinalizePre reqFinalizeGo reqFinalizeLine
  rfl

theorem reqFinalizePre_some {c c' : Conn} {b : Bool} (h : reqFinalizePre c = some (c', b)) :
    ∃ d, c' = { c with inn := d } ∧
      (d = c.inn ∨ d = (c.inn.peekSet).1 ∨
       reqFinalizeScan (((c.inn.peekSet).1.len - (c.inn.peekSet).1.read).toNat + 2) (c.inn.peekSet).1 = some d) := by
  unfold reqFinalizePre at h
  simp only at h
  split at h
  · split at h
    · simp only [Option.some.injEq, Prod.mk.injEq] at h; exact ⟨_, h.1.symm, .inr (.inl rfl)⟩
    · split at h
      · split at h
        · simp at h
        · rename_i d hs
          simp only [Option.some.injEq, Prod.mk.injEq] at h
          exact ⟨d, h.1.symm, .inr (.inr hs)⟩
      · simp only [Option.some.injEq, Prod.mk.injEq] at h; exact ⟨_, h.1.symm, .inr (.inl rfl)⟩
  · simp only [Option.some.injEq, Prod.mk.injEq] at h; exact ⟨_, h.1.symm, .inl rfl⟩

theorem reqFinalizeGo_some {c c' : Conn} {data : Bytes} (h : reqFinalizeGo c data = some c') :
    c' = c ∨ c' = { c with inn := { c.inn with bodyDataLeft := 1 } } := by
  unfold reqFinalizeGo at h
  simp only at h
  split at h
  · split at h
    · simp at h
    · simp only [Option.some.injEq] at h
      rw [← h]
      split
      · exact .inl rfl
      · exact .inr rfl
  · simp only [Option.some.injEq] at h; exact .inl h.symm

theorem reqFinalizeLine_some {cfg : Cfg} {c c' : Conn} {data dd : Bytes} (h : reqFinalizeLine cfg c data = some (c', dd)) :
    c' = c ∨ ∃ d4 b4, c.inn.copyByte = some (d4, b4) ∧
      (c' = { c with inn := d4 } ∨ ∃ d5, d4.consolidate cfg.fieldLimitHard true = some (d5, dd) ∧ c' = { c with inn := d5 }) := by
  unfold reqFinalizeLine at h
  split at h
  · cases hcb : c.inn.copyByte with
    | none => rw [hcb] at h; simp at h
    | some p =>
      obtain ⟨d4, b4⟩ := p
      rw [hcb] at h
      simp only at h
      refine .inr ⟨d4, b4, rfl, ?_⟩
      cases hc4 : d4.consolidate cfg.fieldLimitHard true with
      | none =>
        rw [hc4] at h
        simp only [Option.some.injEq, Prod.mk.injEq] at h
        exact .inl h.1.symm
      | some q4 =>
        obtain ⟨d5, data5⟩ := q4
        rw [hc4] at h
        simp only [Option.some.injEq, Prod.mk.injEq] at h
        exact .inr ⟨d5, by rw [← h.2], h.1.symm⟩
  · simp only [Option.some.injEq, Prod.mk.injEq] at h; exact .inl h.1.symm

/-- RES_LINE, first step of a turn: one more byte unless the stream is closed (`none`: there is none yet) -/
def resLineByte (c : Conn) : Option Conn :=
  if !(c.out.status == STREAM_CLOSED) then
    match c.out.copyByte with
    | none => none
    | some (d, _) => some { c with out := d }
  else some c

/-- second step: after a CR the byte that follows is looked at - none yet (`.error`), LF (`true`: go on scanning), another byte (the CR
    ends the line: the look-ahead byte is set to LF) -/
def resLineCr (c : Conn) : Except Rc (Conn × Bool) :=
  if c.out.nextByte == 13 then
    let (d, nb) := c.out.peekSet
    let c := { c with out := d }
    match nb with
    | none => .error .dataBuffer
    | some b => if b == LF then .ok (c, true) else .ok ({ c with out := { c.out with nextByte := 10 } }, false)
  else .ok (c, false)

theorem resLineLoop_succ (cfg : Cfg) (fuel : Nat) (c : Conn) :
    resLineLoop cfg (fuel + 1) c =
      match c.out.tx with
      | none => (c, .error)
      | some uid =>
        match resLineByte c with
        | none => (c, .dataBuffer)
        | some c1 =>
          match resLineCr c1 with
          | .error rc => ({ c1 with out := (c1.out.peekSet).1 }, rc)
          | .ok (c2, true) => resLineLoop cfg fuel c2
          | .ok (c2, false) =>
            if !(c2.out.nextByte == 10 || c.out.status == STREAM_CLOSED) then resLineLoop cfg fuel c2
            else resLineComplete cfg uid (c.out.status == STREAM_CLOSED) c2 := rfl

theorem resLineByte_none {c : Conn} (h : resLineByte c = none) : c.out.copyByte = none := by
  unfold resLineByte at h
  split at h
  · split at h
    · assumption
    · cases h
  · cases h

theorem resLineByte_some {c c1 : Conn} (h : resLineByte c = some c1) :
    c1 = c ∨ ∃ d b, c.out.copyByte = some (d, b) ∧ c1 = { c with out := d } := by
  unfold resLineByte at h
  split at h
  · split at h
    · cases h
    · exact .inr ⟨_, _, ‹_›, (Option.some.inj h).symm⟩
  · exact .inl (Option.some.inj h).symm

theorem resLineCr_error {c : Conn} {rc : Rc} (h : resLineCr c = .error rc) : c.out.peek = none := by
  unfold resLineCr at h
  split at h
  · cases hp : c.out.peek with
    | none => rfl
    | some b => simp only [Dir.peekSet, hp] at h; split at h <;> cases h
  · cases h

theorem resLineCr_ok {c c2 : Conn} {again : Bool} (h : resLineCr c = .ok (c2, again)) :
    ∃ n, c2 = { c with out := { c.out with nextByte := n } } := by
  unfold resLineCr at h
  split at h
  · cases hp : c.out.peek with
    | none => simp only [Dir.peekSet, hp] at h; cases h
    | some b =>
      simp only [Dir.peekSet, hp] at h
      split at h <;> (cases h; exact ⟨_, rfl⟩)
  · cases h; exact ⟨_, rfl⟩

/-- said of a result of `resHeadersEol`: `P` of the state it hands on, `E` when it gave up -/
def EolRes (E : Prop) (P : Conn → Prop) : Except Rc (Conn × Bool × Bool × Bool) → Prop
  | .ok (c2, _) => P c2
  | .error _ => E

/-- the end of a response's header block when the stream is closed or the block was a trailer: the receiver is finalized, RESPONSE_TRAILER
    runs, the parser goes to RES_FINALIZE -/
def resTrailer (uid : Nat) (c : Conn) : R :=
  resReceiverFinalizeClear c >>? fun c =>
  runCallback .responseTrailer (some uid) none false c >>? fun c =>
  ({ c with outState := .finalize }, .ok)

/-- the empty line that ends a header block: the pending header is flushed; after the response headers the body is determined, after
    trailers `resTrailer` -/
def resHeadersEnd (uid : Nat) (c : Conn) : R :=
  resFlushHeader c >>? fun c =>
  let c := { c with out := c.out.clearBuffer }
  if c.outTx.resProgress == 2 then ({ c with outState := .bodyDetermine }, .ok) else resTrailer uid c

theorem resHeadersLoop_succ (cfg : Cfg) (fuel : Nat) (lfcr : Bool) (c : Conn) :
    resHeadersLoop cfg (fuel + 1) lfcr c =
      match c.out.tx with
      | none => (c, .error)
      | some uid =>
        if c.out.status == STREAM_CLOSED then resTrailer uid c else
        match c.out.copyByte with
        | none => (c, .dataBuffer)
        | some (d, b) =>
          if b != LF && b != CR then resHeadersLoop cfg fuel false { c with out := d } else
          match resHeadersEol b lfcr { c with out := d } with
          | .error rc => ({ c with out := (d.peekSet).1 }, rc)
          | .ok (c, lfcr, _, true) => resHeadersLoop cfg fuel lfcr c
          | .ok (c, lfcr, endwithcr, false) =>
            match c.out.consolidate cfg.fieldLimitHard false with
            | none => (c, .error)
            | some (d, data) =>
              if endwithcr && data.length < 2 then resHeadersLoop cfg fuel lfcr { c with out := d } else
              if Parse.isLineTerminator cfg data (d.read < d.len && d.cur[d.read.toNat]? != some LF) then
                resHeadersEnd uid { c with out := d }
              else
                resHeaderLine uid (Parse.chomp data).1 { c with out := d } >>? fun c =>
                  resHeadersLoop cfg fuel lfcr { c with out := c.out.clearBuffer } := by
  rw [resHeadersLoop]
  rfl

theorem reqData_eq (cfg : Cfg) (data : Option Bytes) (len : Nat) (c : Conn) :
    reqData cfg data len c =
      ({ (reqDataCore cfg data len c).1 with inn := { (reqDataCore cfg data len c).1.inn with live := false } },
        (reqDataCore cfg data len c).2) := by
  unfold reqData
  generalize reqDataCore cfg data len c = r
  rfl

/-- the wake-up at the start of a request data call writes `out_status` and nothing else -/
theorem reqWakeOther_eq (c : Conn) : reqWakeOther c =
    { c with out := { c.out with status := if c.out.status == STREAM_DATA_OTHER then STREAM_DATA else c.out.status } } := by
  unfold reqWakeOther
  split <;> rfl

theorem reqWakeOther_inn (c : Conn) : (reqWakeOther c).inn = c.inn := by rw [reqWakeOther_eq]

/-- **the shape of htp_connp_req_data**: four early returns (the stream was stopped or in error, there is no transaction outside REQ_IDLE,
    the chunk is empty and the stream not closed), then the chunk is stored, and the call returns at once on a tunnel or runs the loop -/
theorem reqDataCore_cases {P : Conn × Nat → Prop} (cfg : Cfg) (data : Option Bytes) (len : Nat) (c : Conn)
    (stop : c.inn.status = STREAM_STOP → P (c, STREAM_STOP))
    (error : c.inn.status = STREAM_ERROR → P (c, STREAM_ERROR))
    (noTx : c.inn.tx = none → c.inState ≠ .idle → P ({ c with inn := { c.inn with status := STREAM_ERROR } }, STREAM_ERROR))
    (empty : len = 0 → c.inn.status ≠ STREAM_CLOSED → P (c, STREAM_CLOSED))
    (tunnel : c.inn.status = STREAM_TUNNEL → ¬ (c.inn.tx = none ∧ c.inState ≠ .idle) ∧ ¬ (len = 0 ∧ c.inn.status ≠ STREAM_CLOSED) →
      P (reqStoreChunk data len c, STREAM_TUNNEL))
    (loop : c.inn.status ≠ STREAM_STOP → c.inn.status ≠ STREAM_ERROR → c.inn.status ≠ STREAM_TUNNEL →
      ¬ (c.inn.tx = none ∧ c.inState ≠ .idle) ∧ ¬ (len = 0 ∧ c.inn.status ≠ STREAM_CLOSED) →
      P (reqDriverLoop cfg (data.isNone && len > 0) (8 * len + 64) (reqWakeOther (reqStoreChunk data len c)))) :
    P (reqDataCore cfg data len c) := by
  unfold reqDataCore
  split
  · exact stop (eq_of_beq ‹_›)
  split
  · exact error (eq_of_beq ‹_›)
  split
  · rename_i h
    simp only [Bool.and_eq_true, Option.isNone_iff_eq_none, bne_iff_ne] at h
    exact noTx h.1 h.2
  split
  · rename_i h
    simp only [Bool.and_eq_true, beq_iff_eq, bne_iff_ne] at h
    exact empty h.1 h.2
  rename_i h1 h2 h3 h4
  simp only [Bool.and_eq_true, Option.isNone_iff_eq_none, bne_iff_ne, beq_iff_eq] at h3 h4
  simp only
  split
  · exact tunnel (eq_of_beq ‹_›) ⟨h3, h4⟩
  · rename_i h5
    exact loop (ne_of_beq_false (Bool.eq_false_iff.mpr h1)) (ne_of_beq_false (Bool.eq_false_iff.mpr h2))
      (ne_of_beq_false (Bool.eq_false_iff.mpr h5)) ⟨h3, h4⟩

theorem resData_eq (cfg : Cfg) (data : Option Bytes) (len : Nat) (c : Conn) :
    resData cfg data len c =
      ({ (resDataCore cfg data len c).1 with out := { (resDataCore cfg data len c).1.out with live := false } },
        (resDataCore cfg data len c).2) := by
  unfold resData
  generalize resDataCore cfg data len c = r
  rfl

theorem resDataCore_cases {P : Conn × Nat → Prop} (cfg : Cfg) (data : Option Bytes) (len : Nat) (c : Conn)
    (stop : c.out.status = STREAM_STOP → P (c, STREAM_STOP))
    (error : c.out.status = STREAM_ERROR → P (c, STREAM_ERROR))
    (noTx : c.out.tx = none → c.outState ≠ .idle → P ({ c with out := { c.out with status := STREAM_ERROR } }, STREAM_ERROR))
    (empty : len = 0 → c.out.status ≠ STREAM_CLOSED → P (c, STREAM_CLOSED))
    (tunnel : c.out.status = STREAM_TUNNEL → ¬ (c.out.tx = none ∧ c.outState ≠ .idle) ∧ ¬ (len = 0 ∧ c.out.status ≠ STREAM_CLOSED) →
      P (resStoreChunk data len c, STREAM_TUNNEL))
    (loop : c.out.status ≠ STREAM_STOP → c.out.status ≠ STREAM_ERROR → c.out.status ≠ STREAM_TUNNEL →
      ¬ (c.out.tx = none ∧ c.outState ≠ .idle) ∧ ¬ (len = 0 ∧ c.out.status ≠ STREAM_CLOSED) →
      P (resDriverLoop cfg (data.isNone && len > 0) (8 * len + 64) (resStoreChunk data len c))) :
    P (resDataCore cfg data len c) := by
  unfold resDataCore
  split
  · exact stop (eq_of_beq ‹_›)
  split
  · exact error (eq_of_beq ‹_›)
  split
  · rename_i h
    simp only [Bool.and_eq_true, Option.isNone_iff_eq_none, bne_iff_ne] at h
    exact noTx h.1 h.2
  split
  · rename_i h
    simp only [Bool.and_eq_true, beq_iff_eq, bne_iff_ne] at h
    exact empty h.1 h.2
  rename_i h1 h2 h3 h4
  simp only [Bool.and_eq_true, Option.isNone_iff_eq_none, bne_iff_ne, beq_iff_eq] at h3 h4
  simp only
  split
  · exact tunnel (eq_of_beq ‹_›) ⟨h3, h4⟩
  · rename_i h5
    exact loop (ne_of_beq_false (Bool.eq_false_iff.mpr h1)) (ne_of_beq_false (Bool.eq_false_iff.mpr h2))
      (ne_of_beq_false (Bool.eq_false_iff.mpr h5)) ⟨h3, h4⟩

/-- REQ_BODY_IDENTITY, REQ_BODY_CHUNKED_DATA, RES_BODY_CHUNKED_DATA and RES_BODY_IDENTITY_CL_KNOWN (on an open stream) are one program over
    different fields: take `n = min(available, owed)` bytes, hand them to the body hooks, advance, count down, and leave the state when
    nothing is owed any more -/
def takeBody (avail owed : Conn → Int) (hook : Int → Conn → R) (adv : Int → Conn → Conn) (fin : Conn → R) (c : Conn) : R :=
  let n : Int := if avail c ≥ owed c then owed c else avail c
  if n == 0 then (c, .data) else
  let (c1, rc) := hook n c
  if rc != .ok then (c1, rc) else
  let c2 := adv n c1
  if owed c2 == 0 then fin c2 else (c2, .data)

theorem reqBodyIdentity_eq (cfg : Cfg) (c : Conn) :
    reqBodyIdentity cfg c = takeBody (fun c => c.inn.len - c.inn.read) (·.inn.bodyDataLeft)
    (fun n c => reqProcessBodyData cfg (if c.inn.curNull then none else some (sliceCur c.inn c.inn.read (c.inn.read + n)))
      (if c.inn.curNull then n.toNat else 0) c)
    (fun n c => ({ c with inn := { c.inn.advance n with bodyDataLeft := c.inn.bodyDataLeft - n } } : Conn).modIn
      fun t => { t with reqMessageLen := t.reqMessageLen + n.toNat })
    (fun c => ({ c with inState := .finalize }, .ok)) c := by
  unfold reqBodyIdentity takeBody
  dsimp only

theorem reqBodyChunkedData_eq (cfg : Cfg) (c : Conn) :
    reqBodyChunkedData cfg c = takeBody (fun c => c.inn.len - c.inn.read) (·.inn.chunkedLength)
    (fun n c => reqProcessBodyData cfg (some (sliceCur c.inn c.inn.read (c.inn.read + n))) 0 c)
    (fun n c => ({ c with inn := { c.inn.advance n with chunkedLength := c.inn.chunkedLength - n } } : Conn).modIn
      fun t => { t with reqMessageLen := t.reqMessageLen + n.toNat })
    (fun c => ({ c with inState := .bodyChunkedDataEnd }, .ok)) c := by
  unfold reqBodyChunkedData takeBody
  dsimp only

theorem resBodyChunkedData_eq (cfg : Cfg) (c : Conn) :
    resBodyChunkedData cfg c = takeBody (fun c => c.out.len - c.out.read) (·.out.chunkedLength)
    (fun n c => resProcessBodyData cfg (some (sliceCur c.out c.out.read (c.out.read + n))) c)
    (fun n c => { c with out := { c.out.advance n with chunkedLength := c.out.chunkedLength - n } })
    (fun c => ({ c with outState := .bodyChunkedDataEnd }, .ok)) c := by
  unfold resBodyChunkedData takeBody
  dsimp only

theorem resBodyIdentityClKnown_closed (cfg : Cfg) (c : Conn) (hc : (c.out.status == STREAM_CLOSED) = true) :
    resBodyIdentityClKnown cfg c = resProcessBodyData cfg none { c with outState := .finalize } := by
  unfold resBodyIdentityClKnown
  dsimp only
  rw [if_pos hc]

theorem resBodyIdentityClKnown_open (cfg : Cfg) (c : Conn) (hc : (c.out.status == STREAM_CLOSED) = false) :
    resBodyIdentityClKnown cfg c = takeBody (fun c => c.out.len - c.out.read) (·.out.bodyDataLeft)
    (fun n c => resBodyIdentityClKnown.resProcessBodyDataGap cfg
      (if c.out.curNull then none else some (sliceCur c.out c.out.read (c.out.read + n))) (if c.out.curNull then n.toNat else 0) c)
    (fun n c => { c with out := { c.out.advance n with bodyDataLeft := c.out.bodyDataLeft - n } })
    (fun c => resProcessBodyData cfg none { c with outState := .finalize }) c := by
  unfold resBodyIdentityClKnown takeBody
  dsimp only
  rw [if_neg (by rw [hc]; decide)]

end Htp.Conn
