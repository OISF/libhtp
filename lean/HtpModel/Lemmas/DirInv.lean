/- What the walk over a direction's state functions needs of a predicate on that direction's record (`Dir`): closure under the cursor
   primitives. The state functions touch the cursor fields and the line buffer through these primitives only, so the general walk
   (Lemmas/StateWalk.lean; the instance is `reqRelS_inv`, Lemmas/CursorInv.lean) serves every such predicate: the cursors inside the chunk (`WFCur`, here), that and
   the line buffer within the hard limit (`WFB`, Lemmas/CursorInv.lean), a NULL chunk and the line buffer within the limit (`NB`,
   Lemmas/History.lean). -/
import HtpModel.Lemmas.Cursor
namespace Htp.Conn
open Htp Htp.Gen

def SameCur (d d' : Dir) : Prop :=
  d'.read = d.read ∧ d'.len = d.len ∧ d'.consume = d.consume ∧ d'.cur = d.cur ∧ d'.curNull = d.curNull

theorem SameCur.refl (d : Dir) : SameCur d d := ⟨rfl, rfl, rfl, rfl, rfl⟩
theorem SameCur.trans {a b c : Dir} (h1 : SameCur a b) (h2 : SameCur b c) : SameCur a c :=
  ⟨h2.1.trans h1.1, h2.2.1.trans h1.2.1, h2.2.2.1.trans h1.2.2.1, h2.2.2.2.1.trans h1.2.2.2.1, h2.2.2.2.2.trans h1.2.2.2.2⟩

/-- `P` is kept by the cursor primitives: by every move of `Dir.Step hard B` (Lemmas/Cursor.lean; `hard` is the limit `buffer` is called
    with, `B` says whether `P` bounds the cursors by the chunk, so that a body state advances only by an amount that fits: `False` for a
    predicate that does not, as `NB` - then the general loop walks apply, `(walk_reqDriverLoop cfg (reqRelS_inv I) id g fuel c) w`).
    Instances: `dirInv_wfCur` (below), `dirInv_wfb` (Lemmas/CursorInv.lean), `dirInv_nb` and, with the response side's extra fields (`DirInvO`),
    `dirInvO_nb` (Lemmas/History.lean), `dirInvO_wfbo` (Lemmas/BufInvOut.lean). -/
structure DirInv (hard : Nat) (B : Prop) (P : Dir → Prop) : Prop where
  /-- `P` looks at the cursor fields and the line buffer only -/
  same : ∀ {d d' : Dir}, P d → SameCur d d' → d'.buf = d.buf → P d'
  step : ∀ {d d' : Dir}, Dir.Step hard B d d' → P d → P d'

namespace DirInv
variable {hard : Nat} {B : Prop} {P : Dir → Prop} (I : DirInv hard B P)
include I

theorem copyByte {d d' : Dir} {b : UInt8} (w : P d) (h : d.copyByte = some (d', b)) : P d' := I.step (.copy h) w
theorem peekSet {d : Dir} (w : P d) : P (d.peekSet).1 := I.same w ⟨rfl, rfl, rfl, rfl, rfl⟩ rfl

theorem eq {d d' : Dir} (w : P d)
    (h : (d'.read, d'.len, d'.consume, d'.cur, d'.curNull, d'.buf) = (d.read, d.len, d.consume, d.cur, d.curNull, d.buf)) : P d' :=
  I.same w ⟨congrArg (·.1) h, congrArg (·.2.1) h, congrArg (·.2.2.1) h, congrArg (·.2.2.2.1) h, congrArg (·.2.2.2.2.1) h⟩
    (congrArg (·.2.2.2.2.2) h)

theorem consolidate {d d2 : Dir} {s : Bool} {data : Bytes} (w : P d) (h : d.consolidate hard s = some (d2, data)) : P d2 := by
  rcases Dir.consolidate_step (B := B) h with rfl | st
  · exact w
  · exact I.step st w

end DirInv

/-- the cursors of a direction are inside its (non-NULL) chunk: 0 <= consume <= read <= len <= |chunk|, and `len` is a size_t -/
structure WFCur (d : Dir) : Prop where
  notNull : d.curNull = false
  c0 : 0 ≤ d.consume
  cr : d.consume ≤ d.read
  rl : d.read ≤ d.len
  lc : d.len ≤ (d.cur.length : Int)
  small : d.len < 18446744073709551616

theorem peek_none_wf (d : Dir) (w : WFCur d) (h : d.peek = none) : d.len ≤ d.read :=
  Dir.peek_none (Int.le_trans w.c0 w.cr) w.lc h

theorem copyByte_some_wf (d d' : Dir) (b : UInt8) (w : WFCur d) (h : d.copyByte = some (d', b)) :
    WFCur d' ∧ d'.consume < d'.read ∧ d'.len = d.len := by
  obtain ⟨hlt, e, _⟩ := Dir.copyByte_eq h
  rw [e]
  have := w.cr
  exact ⟨⟨w.notNull, w.c0, by simp only []; omega, by simp only []; omega, w.lc, w.small⟩, by simp only []; omega, rfl⟩

theorem dirInv_wfCur (hard : Nat) : DirInv hard True WFCur where
  same w h _ := by
    obtain ⟨h1, h2, h3, h4, h5⟩ := h
    exact ⟨by rw [h5]; exact w.notNull, by rw [h3]; exact w.c0, by rw [h3, h1]; exact w.cr, by rw [h1, h2]; exact w.rl,
      by rw [h2, h4]; exact w.lc, by rw [h2]; exact w.small⟩
  step h w := by
    have := w.c0; have := w.cr; have := w.rl
    cases h with
    | copy h => exact (copyByte_some_wf _ _ _ w h).1
    | take h =>
      obtain ⟨hlt, e⟩ := Dir.nextByteConsume_eq h
      rw [e]
      exact ⟨w.notNull, by simp only []; omega, by simp only []; omega, by simp only []; omega, w.lc, w.small⟩
    | setAside h =>
      rcases Dir.buffer_eq h with ⟨rfl, _⟩ | ⟨_, _, rfl⟩
      · exact w
      · exact ⟨w.notNull, Int.le_trans w.c0 w.cr, Int.le_refl _, w.rl, w.lc, w.small⟩
    | clear => exact ⟨w.notNull, Int.le_trans w.c0 w.cr, Int.le_refl _, w.rl, w.lc, w.small⟩
    | advance n h =>
      obtain ⟨h0, h1⟩ := h trivial w.rl
      exact ⟨w.notNull, by simp only [Dir.advance]; omega, by simp only [Dir.advance]; omega, by simp only [Dir.advance]; omega, w.lc, w.small⟩
    | readAll n => exact ⟨w.notNull, w.c0, Int.le_trans w.cr w.rl, Int.le_refl _, w.lc, w.small⟩

theorem wf_peekSet (d : Dir) (w : WFCur d) : WFCur (d.peekSet).1 := (dirInv_wfCur 0).peekSet w

end Htp.Conn
