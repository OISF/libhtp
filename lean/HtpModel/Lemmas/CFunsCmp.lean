/- bstr_util_cmp_mem and bstr_util_cmp_mem_nocase as translated in HtpModel/Gen/CFuns.lean = the model's `Bstr.cmpMem` and
   `Bstr.cmpMemNocase` (all inputs). The two translated loops differ in the generated state type and in the key under which bytes are
   compared (the byte itself, `tolower` of it), so the loop invariant is proved once, over a state `mk p` and from what `cond`, `body`,
   `incr`, `rest` do on it (loop rule, `Lemmas/CSemLoop.lean`); every read inside the arrays; at most `len1 + 1` turns. -/
import HtpModel.Lemmas.CFunsBase
import HtpModel.Prim.Bstr
namespace Htp.CFuns
open Htp Htp.CSem Htp.Gen.C Htp.Gen

/-- `model` is the lexicographic comparison under `key` (`hm*`: its four equations); `rest` is the length comparison behind the loop -/
theorem cmp_loop {σ : Type} (mk : Nat → σ) (d1 d2 : Bytes) (key : UInt8 → UInt8) (model : Bytes → Bytes → Int)
    {cond : σ → Option Bool} {body incr rest : Stmt σ}
    (hm00 : model [] [] = 0) (hm01 : ∀ y b, model [] (y :: b) = -1) (hm10 : ∀ x a, model (x :: a) [] = 1)
    (hm11 : ∀ x a y b, model (x :: a) (y :: b) = if key x != key y then (if key x < key y then -1 else 1) else model a b)
    (hc : ∀ p, cond (mk p) = some (decide (p < d1.length) && decide (p < d2.length)))
    (hb : ∀ p x y t u, d1.drop p = x :: t → d2.drop p = y :: u →
      body (mk p) = if key x = key y then some (.next (mk (p + 1))) else some (.ret (mk p) (if key x < key y then -1 else 1)))
    (hi : ∀ p, incr (mk p) = some (.next (mk p)))
    (hr : ∀ p, rest (mk p) = if (p : Int) = d2.length ∧ (p : Int) = d1.length then some (.ret (mk p) 0)
      else if (p : Int) = d1.length then some (.ret (mk p) (-1)) else some (.ret (mk p) 1)) :
    ∀ (n p : Nat), p ≤ d1.length ∧ p ≤ d2.length → d1.length - p < n →
      retVal (seqS (whileF cond body incr n) rest (mk p)) = some (model (d1.drop p) (d2.drop p)) := by
  refine loop_eq retVal mk (fun p => p ≤ d1.length ∧ p ≤ d2.length) (d1.length - ·) (fun p => some (model (d1.drop p) (d2.drop p))) ?_
  intro p ⟨b1, b2⟩ again ih
  unfold turn
  rw [hc]
  cases ha : d1.drop p with
  | nil =>
    have l1 := le_of_drop_nil ha
    rw [decide_eq_false (Nat.not_lt.2 l1), Bool.false_and, Option.bind_some, if_neg Bool.false_ne_true, hr]
    cases hb' : d2.drop p with
    | nil => have l2 := le_of_drop_nil hb'; rw [if_pos (by omega), hm00]; rfl
    | cons y u => have l2 := lt_of_drop_cons hb'; rw [if_neg (by omega), if_pos (by omega), hm01]; rfl
  | cons x t =>
    have l1 := lt_of_drop_cons ha
    cases hb' : d2.drop p with
    | nil =>
      have l2 := le_of_drop_nil hb'
      rw [decide_eq_false (Nat.not_lt.2 l2), Bool.and_false, Option.bind_some, if_neg Bool.false_ne_true, hr, if_neg (by omega),
        if_neg (by omega), hm10]; rfl
    | cons y u =>
      have l2 := lt_of_drop_cons hb'
      rw [decide_eq_true l1, decide_eq_true l2, Bool.and_self, Option.bind_some, if_pos rfl, hb p x y t u ha hb', hm11]
      by_cases hxy : key x = key y
      · rw [if_pos hxy, go_next, hi, go_next, ih (p + 1) ⟨l1, l2⟩ (Nat.sub_lt_sub_left l1 (Nat.lt_succ_self p)), drop_succ_of_drop ha,
          drop_succ_of_drop hb']
        simp [hxy]
      · rw [if_neg hxy, go_ret]; simp [hxy]

abbrev S0 (d1 d2 : Bytes) (p : Nat) : St_bstr_util_cmp_mem := { len1 := d1.length, len2 := d2.length, p1 := p, p2 := p }

theorem bstr_util_cmp_mem_eq (d1 d2 : Bytes) (h1 : d1.length < 9223372036854775808) (_h2 : d2.length < 9223372036854775808)
    (fuel : Nat) (hf : d1.length < fuel) :
    (bstr_util_cmp_mem fuel d1 d2 d1.length d2.length).map (·.1) = some (Bstr.cmpMem d1 d2) := by
  unfold bstr_util_cmp_mem
  rw [run_val]
  exact cmp_loop (S0 d1 d2) d1 d2 id Bstr.cmpMem (cond := bstr_util_cmp_mem_cond1 fuel d1 d2) (body := bstr_util_cmp_mem_body1 fuel d1 d2)
    (incr := bstr_util_cmp_mem_incr1 fuel d1 d2) (rest := bstr_util_cmp_mem_rest1 fuel d1 d2)
    rfl (fun _ _ => rfl) (fun _ _ => rfl) (fun _ _ _ _ => rfl)
    (fun p => by simp [bstr_util_cmp_mem_cond1])
    (fun p x y t u hx hy => by
      have hp := lt_of_drop_cons hx
      by_cases hxy : x = y <;>
        simp [bstr_util_cmp_mem_body1, iteS_bind, retS, seqS, skipS, assignS, rd_of_drop hx, rd_of_drop hy, toNat_int_inj,
          u64_succ p (by omega), UInt8.lt_iff_toNat_lt, hxy])
    (fun _ => rfl)
    (fun p => by simp [bstr_util_cmp_mem_rest1, iteS_bind, retS])
    fuel 0 ⟨Nat.zero_le _, Nat.zero_le _⟩ hf

abbrev SN (d1 d2 : Bytes) (p : Nat) : St_bstr_util_cmp_mem_nocase := { len1 := d1.length, len2 := d2.length, p1 := p, p2 := p }

theorem bstr_util_cmp_mem_nocase_eq (d1 d2 : Bytes) (h1 : d1.length < 9223372036854775808) (_h2 : d2.length < 9223372036854775808)
    (fuel : Nat) (hf : d1.length < fuel) :
    (bstr_util_cmp_mem_nocase fuel d1 d2 d1.length d2.length).map (·.1) = some (Bstr.cmpMemNocase d1 d2) := by
  unfold bstr_util_cmp_mem_nocase
  rw [run_val]
  exact cmp_loop (SN d1 d2) d1 d2 cTolower Bstr.cmpMemNocase (cond := bstr_util_cmp_mem_nocase_cond1 fuel d1 d2)
    (body := bstr_util_cmp_mem_nocase_body1 fuel d1 d2) (incr := bstr_util_cmp_mem_nocase_incr1 fuel d1 d2)
    (rest := bstr_util_cmp_mem_nocase_rest1 fuel d1 d2)
    rfl (fun _ _ => rfl) (fun _ _ => rfl) (fun _ _ _ _ => rfl)
    (fun p => by simp [bstr_util_cmp_mem_nocase_cond1])
    (fun p x y t u hx hy => by
      have hp := lt_of_drop_cons hx
      by_cases hxy : cTolower x = cTolower y <;>
        simp [bstr_util_cmp_mem_nocase_body1, iteS_bind, retS, seqS, skipS, assignS, rd_of_drop hx, rd_of_drop hy, tolowerI_toNat,
          toNat_int_inj, u64_succ p (by omega), UInt8.lt_iff_toNat_lt, hxy])
    (fun _ => rfl)
    (fun p => by simp [bstr_util_cmp_mem_nocase_rest1, iteS_bind, retS])
    fuel 0 ⟨Nat.zero_le _, Nat.zero_le _⟩ hf

end Htp.CFuns
