/- C01 (reference validity of the transaction slots) over whole histories: the `KeepRef` coordinate of the walk (Lemmas/ConnSweepHist.lean),
   read out. The response side points `out_tx` at a transaction only after taking it from the list (RES_IDLE) or after creating it (the
   unmatched-response path), clears it at the end of the response, and htp_connp_tx_freed drops empty slots only. -/
import HtpModel.Lemmas.ConnSweepHist
namespace Htp.Conn
open Htp Htp.Gen

theorem refsInv_resData (cfg : Cfg) (data : Option Bytes) (len : Nat) (c : Conn) (h : RefsInv c) : RefsInv (resData cfg data len c).1 :=
  (calls_resData cfg data len c).ref.keep h

theorem refsInv_reqData (cfg : Cfg) (data : Option Bytes) (len : Nat) (c : Conn) (h : RefsInv c) : RefsInv (reqData cfg data len c).1 :=
  (calls_reqData cfg data len c).ref.keep h

/-- **C01 (reference validity), whole histories**: after any history of calls - request and response data chunks of any content and
    chunking, htp_connp_req_close, htp_connp_close, htp_connp_open, htp_connp_tx_freed, in any order and number, under any configuration
    (tx_auto_destroy or not) and any callback policy (callbacks that destroy the transaction at TRANSACTION_COMPLETE included) - started
    from a state with the invariant: `in_tx` / `out_tx` name transactions that are in the list, the uids of the list are pairwise
    distinct and below the uid counter -/
theorem history_refs_valid (cfg : Cfg) (c0 : Conn) (calls : List Call) (h : RefsInv c0) : RefsInv (runCalls cfg c0 calls) :=
  (calls_runCalls cfg c0 calls).ref.keep h

theorem history_refs_valid_prefix (cfg : Cfg) (c0 : Conn) (calls pre : List Call) (h : RefsInv c0) (_hp : pre <+: calls) :
    RefsInv (runCalls cfg c0 pre) :=
  history_refs_valid cfg c0 pre h

theorem history_refs_valid_each_call (cfg : Cfg) (c0 : Conn) (h : RefsInv c0) (calls pre : List Call) (call : Call)
    (_hp : pre ++ [call] <+: calls) :
    RefsInv (runCalls cfg c0 pre) ∧ RefsInv (runCall cfg (runCalls cfg c0 pre) call) :=
  ⟨history_refs_valid cfg c0 pre h, (calls_runCall cfg _ call).ref.keep (history_refs_valid cfg c0 pre h)⟩

def refsValidB (c : Conn) : Bool :=
  (match c.inn.tx with | some u => (c.findTx u).isSome | none => true) &&
  (match c.out.tx with | some u => (c.findTx u).isSome | none => true)

theorem refsValidB_iff (c : Conn) : refsValidB c = true ↔ RefsValid c := by
  unfold refsValidB RefsValid
  cases c.inn.tx <;> cases c.out.tx <;> simp

instance (c : Conn) : Decidable (RefsValid c) := decidable_of_iff _ (refsValidB_iff c)

/-- two transactions on one connection, interleaved, with a callback policy that DESTROYS each transaction from inside its
    TRANSACTION_COMPLETE callback (callback invocations 14 and 33), and htp_connp_tx_freed in between: a complete request and response
    (transaction 0 is destroyed at the end of the response: the list is `[NULL]`), a request with half its body (`in_tx` names
    transaction 1, in slot 1 behind the empty slot), the start of its response (`out_tx` names it too), tx_freed (the empty slot is
    shifted away under both references), the rest of the response, the rest of the request body (transaction 1 is complete and is
    destroyed from the request side while `in_tx` still names it: the reference is cleared), close, tx_freed -/
def exHistory : List Call :=
  [.open, .req (b!"GET / HTTP/1.1\r\nHost: h\r\n\r\n"), .res (b!"HTTP/1.1 200 OK\r\nContent-Length: 2\r\n\r\nok"),
   .req (b!"POST / HTTP/1.1\r\nHost: h\r\nContent-Length: 4\r\n\r\nab"), .res (b!"HTTP/1.1 200 OK\r\nContent-Le"), .txFreed,
   .res (b!"ngth: 2\r\n\r\nok"), .req (b!"cd"), .close, .txFreed]

def exStart : Conn := { policy := [(14, .destroyTx), (33, .destroyTx)] }

set_option maxRecDepth 100000 in
example : ∀ n ∈ List.range 11, RefsValid (runCalls {} exStart (exHistory.take n)) := by decide +kernel

set_option maxRecDepth 100000 in
example :
    (List.range 11).map (fun n =>
      let c := runCalls {} exStart (exHistory.take n)
      (c.inn.tx, c.out.tx, c.txs.map (fun o => o.map (·.uid)))) =
    [(none, none, []), (none, none, []), (none, none, [some 0]), (none, none, [none]),
     (some 1, none, [none, some 1]), (some 1, some 1, [none, some 1]), (some 1, some 1, [some 1]),
     (some 1, none, [some 1]), (none, none, [none]), (none, none, [none]), (none, none, [])] := by decide +kernel

set_option maxRecDepth 100000 in
/-- the same history with tx_auto_destroy (the library destroys a complete transaction itself; callbacks may not): the same
    references and slots, all valid -/
example :
    (∀ n ∈ List.range 11, RefsValid (runCalls { txAutoDestroy := true } { allowCbDestroy := false } (exHistory.take n))) ∧
    (let c := runCalls { txAutoDestroy := true } { allowCbDestroy := false } (exHistory.take 5)
     c.inn.tx = some 1 ∧ c.out.tx = some 1 ∧ c.txs.map (fun o => o.map (·.uid)) = [none, some 1]) ∧
    (runCalls { txAutoDestroy := true } { allowCbDestroy := false } exHistory).txs = [] := by decide +kernel

set_option maxRecDepth 100000 in
/-- without the destroy action both transactions stay in the list -/
example : (runCalls {} {} exHistory).txs.map (fun o => o.map (·.uid)) = [some 0, some 1] := by decide +kernel

/-- the invariant is not vacuous as a hypothesis either: a state whose `in_tx` names a uid that is not in the list violates it -/
example : ¬ RefsValid { inn := { tx := some 7 } } := by decide +kernel

end Htp.Conn
