/- The response direction's counterpart of Lemmas/Owed.lean: where each of the ten response state functions can leave the parser
   (`StToO`, Lemmas/TxWalk.lean), the amounts owed counted down only by the two counted body states and set where one is entered; on this side the framing decision itself
   refuses a negative Content-Length, so the whole-call theorems need no outside fact. Of the tx-level functions of this direction
   `Still` and `StToO S` are read off what they keep (`ResTx.still`, the second part of `ResTx S`). -/
import HtpModel.Lemmas.Owed
import HtpModel.Lemmas.ConsumedCallOut
namespace Htp.Conn
open Htp Htp.Gen

def KeepOS (c c' : Conn) : Prop := c'.outState = c.outState
theorem KeepOS.refl (c : Conn) : KeepOS c c := rfl
theorem KeepOS.trans {a b c : Conn} (h1 : KeepOS a b) (h2 : KeepOS b c) : KeepOS a c := Eq.trans h2 h1

theorem ResTx.still {c c' : Conn} (h : ResTx (fun _ => False) c c') : Still c c' := by
  have e1 : c'.inState = c.inState := congrArg (·.2.2.1) h.1
  have e2 : c'.inn.bodyDataLeft = c.inn.bodyDataLeft := congrArg (·.2.1.bodyDataLeft) h.1
  have e3 : c'.inn.chunkedLength = c.inn.chunkedLength := congrArg (·.2.1.chunkedLength) h.1
  have e4 : c'.out.chunkedLength = c.out.chunkedLength := congrArg (·.2.2.2) h.1
  have e5 : c'.out.bodyDataLeft = c.out.bodyDataLeft := h.2.2.elim id False.elim
  unfold Still owedView
  rw [h.outState, e1, e2, e3, e4, e5]

theorem keepOS_runCallbackN (n : Nat) (h : Hook) (uid : Option Nat) (data : Option Bytes) (l : Bool) (g : Nat) (c : Conn) :
    KeepOS c (runCallbackN n h uid data l g c).1 := (inert_runCallbackN ..).2.2
theorem keepOS_setTx (t : Tx) (c : Conn) : KeepOS c (c.setTx t) := rfl
theorem keepOS_modIn (f : Tx → Tx) (c : Conn) : KeepOS c (c.modIn f) := (still_modIn f c).outState
theorem keepOS_resReceiverSet (h : Hook) (c : Conn) : KeepOS c (resReceiverSet h c).1 := (resTx_resReceiverSet h c).outState

theorem keepOS_resRefusedConnect (t : Tx) (c : Conn) : KeepOS c (resRefusedConnect t c) := by
  unfold resRefusedConnect
  simp only []
  repeat' split
  all_goals exact rfl

theorem keepOS_resExpectShortcut (t : Tx) (c : Conn) : KeepOS c (resExpectShortcut t c) := by
  unfold resExpectShortcut
  repeat' split
  all_goals exact rfl

def NotOwingO (s : ResState) : Prop := s ≠ .bodyIdentityClKnown ∧ s ≠ .bodyChunkedData

instance : DecidablePred NotOwingO := fun s => inferInstanceAs (Decidable (s ≠ .bodyIdentityClKnown ∧ s ≠ .bodyChunkedData))

theorem owedPosO_of_notOwing {c : Conn} (h : NotOwingO c.outState) : OwedPosO c :=
  ⟨fun e => absurd e h.1, fun e => absurd e h.2⟩

theorem notOwingO_of_eq {c : Conn} {s : ResState} (h : c.outState = s) (hs : s ≠ .bodyIdentityClKnown ∧ s ≠ .bodyChunkedData) :
    NotOwingO c.outState := by rw [h]; exact hs

theorem owedPosO_of_same {c c' : Conn} (s : c'.outState = c.outState) (l : c'.out.bodyDataLeft = c.out.bodyDataLeft)
    (ch : c'.out.chunkedLength = c.out.chunkedLength) (h : OwedPosO c) : OwedPosO c' :=
  ⟨fun e => by rw [l]; exact h.1 (by rw [← s]; exact e), fun e => by rw [ch]; exact h.2 (by rw [← s]; exact e)⟩

theorem Still.owedPosO {c c' : Conn} (s : Still c c') (h : OwedPosO c) : OwedPosO c' :=
  owedPosO_of_same s.outState s.outLeft s.outChunked h

/-- the Content-Length arm of the framing decision enters the counted state only with a positive amount -/
theorem owed_resCl (cl ct : Option Parse.Header) (uid : Nat) (c : Conn) (h : NotOwingO c.outState) : OwedPosO (resCl cl ct uid c).1 := by
  unfold resCl
  cases cl with
  | some cl' =>
    simp only
    refine ite_fst (fun _ => ?_) fun _ => ?_
    · exact owedPosO_of_notOwing h
    · rename_i hneg
      refine ite_fst (fun _ => ?_) fun _ => ?_
      · rename_i hne
        refine ⟨fun _ => ?_, fun e => ?_⟩
        · show 0 < Num.parseContentLength cl'.value
          have hne' : Num.parseContentLength cl'.value ≠ 0 := by simpa using hne
          omega
        · have e' : ResState.bodyIdentityClKnown = ResState.bodyChunkedData := e
          exact absurd e' (by decide)
      · exact owedPosO_of_notOwing (notOwingO_of_eq (s := .finalize) rfl ⟨by decide, by decide⟩)
  | none =>
    cases ct with
    | none =>
      simp only [Bool.false_eq_true, if_false]
      exact owedPosO_of_notOwing (notOwingO_of_eq (s := .bodyIdentityStreamClose) rfl ⟨by decide, by decide⟩)
    | some ct' =>
      simp only
      refine ite_fst (fun _ => ?_) fun _ => ?_
      · exact owedPosO_of_notOwing h
      · exact owedPosO_of_notOwing (notOwingO_of_eq (s := .bodyIdentityStreamClose) rfl ⟨by decide, by decide⟩)

theorem owed_resFraming (te cl ct : Option Parse.Header) (uid : Nat) (c : Conn) (h : NotOwingO c.outState) :
    OwedPosO (resFraming te cl ct uid c).1 := by
  unfold resFraming
  cases te with
  | none => exact owed_resCl _ _ _ _ h
  | some te' =>
    -- chunked: RES_BODY_CHUNKED_LENGTH owes nothing yet
    exact ite_fst (fun _ => owedPosO_of_notOwing (notOwingO_of_eq (s := .bodyChunkedLength) rfl ⟨by decide, by decide⟩)) fun _ =>
      owed_resCl _ _ _ _ h

theorem owed_resFramingStep (uid : Nat) (t : Tx) (te cl : Option Parse.Header) (c : Conn) (h : NotOwingO c.outState) :
    OwedPosO (resFramingStep uid t te cl c).1 := by
  unfold resFramingStep
  refine ite_fst (fun _ => ?_) fun _ => ?_
  · simp only []
    apply owed_resFraming
    split
    · exact h
    · exact h
  · exact owedPosO_of_notOwing h

section
variable {P : ResState → Prop}

theorem StToO.from {a b c : Conn} (h : StToO P b c) (e : b.outState = a.outState) : StToO P a c := StToO.trans (.inl e) h
theorem StToO.notOwing {c c' : Conn} (h : StToO P c c') (h0 : NotOwingO c.outState) (hp : ∀ s, P s → NotOwingO s) :
    NotOwingO c'.outState := by
  rcases h with h | h
  · rw [h]; exact h0
  · exact hp _ h
end

theorem st_resNoBody (uid : Nat) (t : Tx) (te cl : Option Parse.Header) (c : Conn) : StToO (· = .finalize) c (resNoBody uid t te cl c) :=
  (walk_resNoBody (resTx_fn (· = .finalize)) uid t te cl c rfl).2.1

theorem owed_resBodyDetermineRest (cfg : Cfg) (uid : Nat) (t : Tx) (c : Conn) (hs : c.outState = .bodyDetermine) :
    OwedPosO (resBodyDetermineRest cfg uid t c).1 := by
  unfold resBodyDetermineRest
  extract_lets c1 cl te is100
  have k1 : c1.outState = .bodyDetermine := Eq.trans (keepOS_resRefusedConnect t c) hs
  clear_value c1 is100
  refine ite_fst (fun _ => ?_) fun _ => ?_
  · apply owedPosO_of_notOwing
    rw [(resTx_txStateResponseHeaders cfg uid (resSwitchTunnel c1)).outState]
    have : (resSwitchTunnel c1).outState = .finalize := by
      unfold resSwitchTunnel
      simp only []
      split <;> rfl
    exact notOwingO_of_eq this ⟨by decide, by decide⟩
  · refine ite_fst (fun _ => ?_) fun _ => ?_
    · exact owedPosO_of_notOwing (notOwingO_of_eq (s := .line) rfl ⟨by decide, by decide⟩)
    · have hx : NotOwingO (resNoBody uid t te cl (resExpectShortcut t c1)).outState := by
        rcases st_resNoBody uid t te cl (resExpectShortcut t c1) with h | h
        · rw [h, keepOS_resExpectShortcut t c1, k1]; exact ⟨by decide, by decide⟩
        · rw [h]; exact ⟨by decide, by decide⟩
      have hr := owed_resFramingStep uid t te cl _ hx
      generalize resFramingStep uid t te cl (resNoBody uid t te cl (resExpectShortcut t c1)) = r at hr ⊢
      unfold R.andThen
      refine ite_fst (fun _ => ?_) fun _ => ?_
      · exact (resTx_txStateResponseHeaders cfg uid r.1).still.owedPosO hr
      · exact hr

theorem owed_resBodyDetermine (cfg : Cfg) (c : Conn) (hs : c.outState = .bodyDetermine) : OwedPosO (resBodyDetermine cfg c).1 := by
  unfold resBodyDetermine
  cases c.out.tx with
  | none => exact owedPosO_of_notOwing (notOwingO_of_eq hs ⟨by decide, by decide⟩)
  | some uid =>
    simp only
    refine ite_fst (fun _ => ?_) fun _ => ?_
    · apply owedPosO_of_notOwing
      rw [(resTx_txStateResponseHeaders cfg uid { c with outState := .finalize }).outState]
      exact notOwingO_of_eq (c := { c with outState := .finalize }) (s := .finalize) rfl ⟨by decide, by decide⟩
    · exact owed_resBodyDetermineRest cfg uid _ c hs

theorem st_resIdleUnmatched (cfg : Cfg) (c : Conn) :
    StToO (fun s => s = .line ∨ s = .bodyIdentityStreamClose) c (resIdleUnmatched cfg c).1 := by
  unfold resIdleUnmatched
  have k := (keepSt_txCreate cfg c).2
  rcases hx : txCreate cfg c with ⟨c2, u⟩
  rw [hx] at k
  simp only at k ⊢
  cases u with
  | none => exact .inl k
  | some uid => exact (resTx_txStateResponseStart uid _).2.1.from k

theorem st_resIdle (cfg : Cfg) (c : Conn) : StToO (fun s => s = .line ∨ s = .bodyIdentityStreamClose) c (resIdle cfg c).1 := by
  unfold resIdle
  refine ite_fst (fun _ => .refl c) fun _ => ?_
  simp only []
  split
  · refine (st_resIdleUnmatched cfg _).from ?_
    split
    · split
      · exact congrArg (·.2.2) (reqTx_txStateRequestComplete ..).1
      · rfl
    · rfl
  · rename_i t _
    exact (resTx_txStateResponseStart t.uid _).2.1.from rfl

theorem owed_resBodyIdentityClKnown (cfg : Cfg) (c : Conn) (h : OwedPosO c) (hs : c.outState = .bodyIdentityClKnown) :
    OwedPosO (resBodyIdentityClKnown cfg c).1 := by
  cases hc : c.out.status == STREAM_CLOSED with
  | true =>
    rw [resBodyIdentityClKnown_closed cfg c hc]
    have e : (resProcessBodyData cfg none { c with outState := .finalize }).1.outState = .finalize :=
      (resTx_resProcessBodyData cfg none { c with outState := .finalize }).outState
    exact owedPosO_of_notOwing (notOwingO_of_eq e ⟨by decide, by decide⟩)
  | false =>
    have ne : ∀ {x : Conn}, x.outState = c.outState → x.outState ≠ .bodyChunkedData :=
      fun e x => absurd ((e.trans hs).symm.trans x) (by decide)
    rcases (took_resBodyIdentityClKnown cfg c hc).owes (h.1 hs) with e | ⟨e1, e2⟩
    · have e : (resBodyIdentityClKnown cfg c).1.outState = .finalize := e
      exact owedPosO_of_notOwing (e ▸ by decide)
    · exact ⟨fun _ => e1, fun x => absurd x (ne e2)⟩

theorem owed_resBodyChunkedData (cfg : Cfg) (c : Conn) (h : OwedPosO c) (hs : c.outState = .bodyChunkedData) :
    OwedPosO (resBodyChunkedData cfg c).1 := by
  have ne : ∀ {x : Conn}, x.outState = c.outState → x.outState ≠ .bodyIdentityClKnown :=
    fun e x => absurd ((e.trans hs).symm.trans x) (by decide)
  rcases (took_resBodyChunkedData cfg c).owes (h.2 hs) with e | ⟨e1, e2⟩
  · have e : (resBodyChunkedData cfg c).1.outState = .bodyChunkedDataEnd := e
    exact owedPosO_of_notOwing (e ▸ by decide)
  · exact ⟨fun x => absurd x (ne e2), fun _ => e1⟩

/-- RES_BODY_CHUNKED_LENGTH enters the chunk-data state only with a positive chunk length -/
theorem owed_resChunkedLengthLoop (cfg : Cfg) (fuel : Nat) (c : Conn) (hs : c.outState = .bodyChunkedLength) :
    OwedPosO (resChunkedLengthLoop cfg fuel c).1 := by
  induction fuel generalizing c with
  | zero => unfold resChunkedLengthLoop; exact owedPosO_of_notOwing (notOwingO_of_eq hs ⟨by decide, by decide⟩)
  | succ k ih =>
    unfold resChunkedLengthLoop
    cases hn : c.out.copyByte with
    | none => exact owedPosO_of_notOwing (notOwingO_of_eq hs ⟨by decide, by decide⟩)
    | some p =>
      obtain ⟨d, b⟩ := p
      simp -zeta only
      extract_lets c0
      have h0 : c0.outState = .bodyChunkedLength := hs
      clear_value c0
      refine ite_fst (fun _ => ?_) fun _ => ?_
      · exact ih _ h0
      · cases hc : c0.out.consolidate cfg.fieldLimitHard false with
        | none => exact owedPosO_of_notOwing (notOwingO_of_eq h0 ⟨by decide, by decide⟩)
        | some q =>
          obtain ⟨d2, data⟩ := q
          simp -zeta only
          extract_lets c1 s1 c2 s2 rd c3 c4
          have h1 : c1.outState = .bodyChunkedLength := Eq.trans (still_modOut _ { c0 with out := d2 }).outState h0
          have h2 : c2.outState = .bodyChunkedLength := h1
          have h4 : c4.outState = .bodyChunkedLength := h2
          have h3 : c3.outState = .bodyIdentityStreamClose := rfl
          have hcl4 : c4.out.chunkedLength = (Num.parseChunkedLength data).1 := rfl
          clear_value c1 c2 c3 c4
          refine ite_fst (fun _ => ?_) fun _ => ?_
          · apply ih
            exact h2
          · refine ite_fst (fun _ => ?_) fun _ => ?_
            · exact owedPosO_of_notOwing (notOwingO_of_eq (s := .bodyIdentityStreamClose) (Eq.trans (still_modOut _ c3).outState h3) ⟨by decide, by decide⟩)
            · refine ite_fst (fun _ => ?_) fun _ => ?_
              · rename_i hpos
                refine ⟨fun e => ?_, fun _ => ?_⟩
                · have e' : ResState.bodyChunkedData = ResState.bodyIdentityClKnown := e
                  exact absurd e' (by decide)
                · show 0 < c4.out.chunkedLength
                  rw [hcl4]; exact hpos
              · exact owedPosO_of_notOwing (notOwingO_of_eq (s := .headers) (still_modOut _ { c4 with outState := .headers }).outState ⟨by decide, by decide⟩)

theorem owedPosO_resHandleStateChange (c : Conn) (h : OwedPosO c) : OwedPosO (resHandleStateChange c).1 :=
  (resTx_resHandleStateChange c).still.owedPosO h

/-- (`ResRel`, not `ResRelS`: RES_BODY_DETERMINE enters a counted state) -/
theorem resRel_stToO (cfg : Cfg) : ResRel cfg False NotOwingO (StToO NotOwingO) where
  toResFnRel := (resTx_fn NotOwingO).mono (fun t => t.2.1) StToO.trans
  same h := .inl (congrArg (·.outState) h)
  cursor _ := .inl rfl
  unread _ _ _ := .inl rfl

/-- no outside fact is needed: the Content-Length arm refuses a negative number and enters the counted state only for a non-zero one, the
    chunk-length state only for a positive chunk length -/
theorem owedPosO_resStateFn (cfg : Cfg) (c : Conn) (h : OwedPosO c) : OwedPosO (resStateFn cfg c).1 := by
  have via : ∀ {c' : Conn}, StToO NotOwingO c c' → NotOwingO c.outState → OwedPosO c' :=
    fun st h0 => owedPosO_of_notOwing (st.notOwing h0 fun _ h => h)
  have K := resRel_stToO cfg
  unfold resStateFn
  cases hs : c.outState with
  | idle => exact via ((st_resIdle cfg c).mono fun s e => by rcases e with rfl | rfl <;> decide) (hs ▸ by decide)
  | line => exact via (walk_resLineLoop cfg K _ c) (hs ▸ by decide)
  | headers => exact via (walk_resHeadersLoop cfg K _ false c) (hs ▸ by decide)
  | bodyDetermine => exact owed_resBodyDetermine cfg c hs
  | bodyIdentityClKnown => exact owed_resBodyIdentityClKnown cfg c h hs
  | bodyIdentityStreamClose => exact via (walk_resBodyIdentityStreamClose K c) (hs ▸ by decide)
  | bodyChunkedLength => exact owed_resChunkedLengthLoop cfg _ c hs
  | bodyChunkedData => exact owed_resBodyChunkedData cfg c h hs
  | bodyChunkedDataEnd => exact via (walk_resChunkedDataEndLoop K _ c) (hs ▸ by decide)
  | finalize => exact via (walk_resFinalize cfg K c) (hs ▸ by decide)

theorem owedPosO_along_call (cfg : Cfg) (c0 : Conn) (h0 : OwedPosO c0) : ∀ c', CallReachO cfg c0 c' → OwedPosO c' := by
  intro c' hr
  induction hr with
  | start => exact h0
  | step c1 _ _ _ _ ih => exact owedPosO_resHandleStateChange _ (owedPosO_resStateFn cfg c1 ih)

theorem owedPosO_resStoreChunk (d : Bytes) (c : Conn) (h : OwedPosO c) : OwedPosO (resStoreChunk (some d) d.length c) :=
  ⟨fun e => h.1 e, fun e => h.2 e⟩

/-- **DATA means the whole chunk was consumed, whole response data call, from a state invariant and nothing else**: the line buffer within the
    limit and the counted body states owing bytes when the call starts -/
theorem resData_data_consumed_inv (cfg : Cfg) (d : Bytes) (c : Conn) (hs : (d.length : Int) < 18446744073709551616)
    (hb : outBufLen c ≤ cfg.fieldLimitHard) (h0 : OwedPosO c)
    (hdata : (resData cfg (some d) d.length c).2 = STREAM_DATA) :
    (resData cfg (some d) d.length c).1.out.read = (resData cfg (some d) d.length c).1.out.len :=
  resData_data_consumed cfg d c hs hb (owedPosO_along_call cfg _ (owedPosO_resStoreChunk d c h0)) hdata

theorem still_resEnds {cfg : Cfg} {c : Conn} {rc : Rc} {r : Conn × Nat} (h : ResEnds cfg c rc r) : Still c r.1 := by
  obtain ⟨c3, d, s, h3, hd, _, rfl, _⟩ := h
  have k3 : Still c c3 := by
    rcases h3 with rfl | rfl
    · exact .refl _
    · exact (resTx_resReceiverSend false c).still
  refine k3.trans ?_
  rcases hd with rfl | hb
  · exact rfl
  · rw [Dir.buffer_same hb]

theorem owedPosO_resPassHook {c : Conn} (rc : Rc) (h : OwedPosO c) : OwedPosO (resPassHook c rc).1 :=
  (walk_resPassHook (resTx_fn fun _ => False) c rc).still.owedPosO h

/-- **the counted body states owe bytes at the end of the call's loop as well** (so, with the line-buffer bound, `OwedPosO` is carried from one
    response data call to the next) -/
theorem resDriverLoop_owedPosO (cfg : Cfg) (fuel : Nat) (c0 c : Conn) (hr : CallReachO cfg c0 c) (h : OwedPosO c) :
    OwedPosO (resDriverLoop cfg false fuel c).1 :=
  (resDriverLoop_is cfg false).rule (I := fun c => CallReachO cfg c0 c ∧ OwedPosO c) (Q := fun r => OwedPosO r.1)
    (fun _ h => ⟨fun e => h.2.1 e, fun e => h.2.2 e⟩) (fun _ h => h.2)
    (fun c r h hs => by
      cases resStep_false hs
      have hp : OwedPosO (resPass cfg c).1 := owedPosO_resPassHook _ (owedPosO_resStateFn cfg c h.2)
      exact ⟨fun _ _ => hp, fun hok ht => ⟨h.1.pass hok (beq_eq_false_iff_ne.mpr ht), hp⟩, fun _ _ e => (still_resEnds e).owedPosO hp⟩)
    fuel c ⟨hr, h⟩

theorem resData_owedPosO (cfg : Cfg) (data : Option Bytes) (len : Nat) (c : Conn) (hg : (data.isNone && decide (len > 0)) = false)
    (h0 : OwedPosO c) : OwedPosO (resData cfg data len c).1 := by
  have hstore : OwedPosO (resStoreChunk data len c) := ⟨fun e => h0.1 e, fun e => h0.2 e⟩
  rw [resData_eq]
  have key := resDataCore_cases (P := fun r => OwedPosO r.1) cfg data len c (fun _ => h0) (fun _ => h0)
    (fun _ _ => ⟨fun e => h0.1 e, fun e => h0.2 e⟩) (fun _ _ => h0) (fun _ _ => hstore) fun _ _ _ _ => by
      rw [hg]; exact resDriverLoop_owedPosO cfg _ _ _ CallReachO.start hstore
  exact ⟨fun e => key.1 e, fun e => key.2 e⟩

/-- **a response-direction call invariant**: the line buffer within the hard limit and the counted body states owing bytes hold again when
    htp_connp_res_data returns, for any chunk of data and any callback policy - no outside fact -/
theorem resData_invariant (cfg : Cfg) (d : Bytes) (c : Conn) (hs : (d.length : Int) < 18446744073709551616)
    (hb : outBufLen c ≤ cfg.fieldLimitHard) (h0 : OwedPosO c) :
    outBufLen (resData cfg (some d) d.length c).1 ≤ cfg.fieldLimitHard ∧ OwedPosO (resData cfg (some d) d.length c).1 := by
  exact ⟨resData_buffer_bounded cfg d c hs hb fun c' hr => owedOKO_of_pos (owedPosO_along_call cfg _ (owedPosO_resStoreChunk d c h0) c' hr),
    resData_owedPosO cfg _ _ c rfl h0⟩

end Htp.Conn
