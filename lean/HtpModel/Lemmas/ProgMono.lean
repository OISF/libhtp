/- C05 (transaction lifecycle, request side), PARTIAL, over call histories: the progress clause of `TxCont` (`TxCont.prog : Prog.ProgLe t t'`,
   Lemmas/TxCont.lean, which says what the clause is and what is left open), read on lookups by uid -
   `history_req_progress_monotone_partial`. -/
import HtpModel.Lemmas.ConnSweepHist
namespace Htp.Conn
open Htp Htp.Gen

/-- **C05, request side, PARTIAL.** For every stream, chunking, interleaving and callback policy: between a prefix of a call history
    and the whole history, the request progress of a transaction that still exists (a) is unchanged or is one of the phases 1..5,
    and (b) if it was within 0..5, it has not gone backwards unless to one of the constants 1..4 written by `txStateRequestStart`,
    `reqProtocol`, `reqBodyDetermine`, the chunked end and the closed-stream branch of REQ_HEADERS (the sites whose monotonicity needs
    the state-indexed invariant that is not proved); in particular `txStateRequestComplete` never lowers it. -/
theorem history_req_progress_monotone_partial (cfg : Cfg) (policy : List (Nat × CbAction)) (calls pre : List Call) (hp : pre <+: calls) :
    ∀ u t t', (runCalls cfg { policy := policy } pre).findTx u = some t → (runCalls cfg { policy := policy } calls).findTx u = some t' →
      (t'.reqProgress = t.reqProgress ∨ (1 ≤ t'.reqProgress ∧ t'.reqProgress ≤ 5)) ∧
      (t.reqProgress ≤ 5 → t.reqProgress ≤ t'.reqProgress ∨ t'.reqProgress ≤ 4) :=
  fun _ _ _ h1 h2 => (history_txCont cfg _ (hyg_of_empty rfl) calls pre hp h1 h2).prog

/-- a POST with a chunked body and a trailer, cut so that each call ends in the next phase: progress 1, 2, 3, 4, 5 -/
example :
    let calls : List Call := [.open,
      .req (b!"POST /u HTTP/1.1\r"),
      .req (b!"\nHost: a\r\nTransfer-Encoding: chunked\r\n"),
      .req (b!"\r\n5\r\nhel"),
      .req (b!"lo\r\n0\r\nX-T: 1\r"),
      .req (b!"\n\r\n")]
    let prog (n : Nat) : Option Nat := ((runCalls {} {} (calls.take n)).findTx 0).map (·.reqProgress)
    prog 1 = none ∧ prog 2 = some 1 ∧ prog 3 = some 2 ∧ prog 4 = some 3 ∧ prog 5 = some 4 ∧ prog 6 = some 5 := by decide +kernel

end Htp.Conn
