/- The counted body states owe bytes in every pass of a request data call and when it returns (`OwedPos`), given only that the
   Content-Length of an identity body is not negative at the framing decision (`ClAtDecision`). Discharges the 'still owing' hypothesis
   of the whole-call theorems from a state invariant.

   Two relations carry it. `Still c c'`: the two parser states and the four amounts owed are the same; the tx-level functions keep it
   (`ReqTx.still`). `StTo NotOwing c c'` (Lemmas/TxWalk.lean): the request parser is in the state it was in, or in one that owes nothing;
   it is an instance of the walk over the state functions (`reqRelS_stTo`), and the four states that enter or leave a counted body state
   have lemmas of their own (`owed_*`). What a user calls: `owedPos_reqStateFn` (outside the two counted states its `OwedPos c` is
   `owedPos_of_notOwing`). The response twins are in Lemmas/OwedOut.lean, which imports this file; their names carry an `O`
   (`owedPosO_*`, `NotOwingO`, `resRel_stToO` - a `ResRel`: RES_BODY_DETERMINE enters a counted state). -/
import HtpModel.Lemmas.ConsumedCall
namespace Htp.Conn
open Htp Htp.Gen

@[reducible] def owedView (c : Conn) : ReqState × ResState × Int × Int × Int × Int :=
  (c.inState, c.outState, c.inn.bodyDataLeft, c.inn.chunkedLength, c.out.bodyDataLeft, c.out.chunkedLength)

@[reducible] def Still (c c' : Conn) : Prop := owedView c' = owedView c

theorem Still.refl (c : Conn) : Still c c := rfl
theorem Still.trans {a b c : Conn} (h1 : Still a b) (h2 : Still b c) : Still a c := Eq.trans h2 h1
theorem Still.inState {c c' : Conn} (h : Still c c') : c'.inState = c.inState := congrArg (·.1) h
theorem Still.outState {c c' : Conn} (h : Still c c') : c'.outState = c.outState := congrArg (·.2.1) h
theorem Still.inLeft {c c' : Conn} (h : Still c c') : c'.inn.bodyDataLeft = c.inn.bodyDataLeft := congrArg (·.2.2.1) h
theorem Still.inChunked {c c' : Conn} (h : Still c c') : c'.inn.chunkedLength = c.inn.chunkedLength := congrArg (·.2.2.2.1) h
theorem Still.outLeft {c c' : Conn} (h : Still c c') : c'.out.bodyDataLeft = c.out.bodyDataLeft := congrArg (·.2.2.2.2.1) h
theorem Still.outChunked {c c' : Conn} (h : Still c c') : c'.out.chunkedLength = c.out.chunkedLength := congrArg (·.2.2.2.2.2) h

theorem Still.owedPos {c c' : Conn} (s : Still c c') (h : OwedPos c) : OwedPos c' :=
  ⟨fun e => by rw [s.inLeft]; exact h.1 (by rw [← s.inState]; exact e), fun e => by rw [s.inChunked]; exact h.2 (by rw [← s.inState]; exact e)⟩

theorem ReqTx.still {c c' : Conn} (h : ReqTx (fun _ => False) c c') : Still c c' := by
  have e := congrArg (fun v : Dir × Dir × ResState =>
    (v.2.2, v.1.bodyDataLeft, v.1.chunkedLength, v.2.1.bodyDataLeft, v.2.1.chunkedLength)) h.1
  unfold Still owedView
  rw [h.inState]
  exact congrArg (Prod.mk c.inState) e

theorem still_modIn (f : Tx → Tx) (c : Conn) : Still c (c.modIn f) := by
  unfold Conn.modIn
  split <;> exact rfl
theorem still_modOut (f : Tx → Tx) (c : Conn) : Still c (c.modOut f) := by
  unfold Conn.modOut
  split <;> exact rfl

/-- transaction creation writes the amount owed by an identity body (-1: not known yet): `KeepSt`, not `Still` -/
theorem keepSt_txCreate (cfg : Cfg) (c : Conn) : KeepSt c (txCreate cfg c).1 := by
  unfold txCreate
  simp only []
  split <;> exact ⟨rfl, rfl⟩

def NotOwing (s : ReqState) : Prop := s ≠ .bodyIdentity ∧ s ≠ .bodyChunkedData

instance : DecidablePred NotOwing := fun s => inferInstanceAs (Decidable (s ≠ .bodyIdentity ∧ s ≠ .bodyChunkedData))

theorem owedPos_of_notOwing {c : Conn} (h : NotOwing c.inState) : OwedPos c :=
  ⟨fun e => absurd e h.1, fun e => absurd e h.2⟩

theorem notOwing_of_eq {c : Conn} {s : ReqState} (h : c.inState = s) (hs : s ≠ .bodyIdentity ∧ s ≠ .bodyChunkedData) :
    NotOwing c.inState := by rw [h]; exact hs

section
variable {P : ReqState → Prop}

theorem StTo.notOwing {c c' : Conn} (h : StTo P c c') (h0 : NotOwing c.inState) (hp : ∀ s, P s → NotOwing s) : NotOwing c'.inState := by
  rcases h with h | h
  · rw [h]; exact h0
  · exact hp _ h
end

/-- REQ_BODY_DETERMINE: an identity body is entered with the Content-Length as the amount owed -/
theorem owed_reqBodyDetermine (c : Conn) (hs : c.inState = .bodyDetermine) (hcl : c.inTx.reqTransferCoding = CODING_IDENTITY → 0 ≤ c.inTx.reqContentLength) :
    OwedPos (reqBodyDetermine c).1 := by
  unfold reqBodyDetermine
  simp only []
  refine ite_fst (fun _ => ?_) fun _ => ?_
  · exact owedPos_of_notOwing (notOwing_of_eq (s := .bodyChunkedLength) (still_modIn _ { c with inState := .bodyChunkedLength }).inState ⟨by decide, by decide⟩)
  · refine ite_fst (fun _ => ?_) fun _ => ?_
    · rename_i hid
      have hid' : c.inTx.reqTransferCoding = CODING_IDENTITY := by simpa using hid
      have h0 := hcl hid'
      refine ite_fst (fun _ => ?_) fun _ => ?_
      · rename_i hne
        have hne' : c.inTx.reqContentLength ≠ 0 := by simpa using hne
        -- the state entered owes the Content-Length, which is positive; the progress write does not touch it
        refine (still_modIn _ _).owedPos ⟨fun _ => ?_, fun e => absurd (show ReqState.bodyIdentity = .bodyChunkedData from e) (by decide)⟩
        show 0 < c.inTx.reqContentLength
        omega
      · exact owedPos_of_notOwing (notOwing_of_eq (s := .finalize) rfl ⟨by decide, by decide⟩)
    · refine ite_fst (fun _ => ?_) fun _ => ?_
      · exact owedPos_of_notOwing (notOwing_of_eq (s := .finalize) rfl ⟨by decide, by decide⟩)
      · exact owedPos_of_notOwing (notOwing_of_eq (s := .bodyDetermine) hs ⟨by decide, by decide⟩)

theorem ok_reqBodyIdentity (cfg : Cfg) (c : Conn) (hok : (reqBodyIdentity cfg c).2 = Rc.ok) :
    NotOwing (reqBodyIdentity cfg c).1.inState := by
  have e : (reqBodyIdentity cfg c).1.inState = .finalize := ((took_reqBodyIdentity cfg c).ok hok).1
  rw [e]
  decide

theorem ok_reqBodyChunkedData (cfg : Cfg) (c : Conn) (hok : (reqBodyChunkedData cfg c).2 = Rc.ok) :
    NotOwing (reqBodyChunkedData cfg c).1.inState := by
  have e : (reqBodyChunkedData cfg c).1.inState = .bodyChunkedDataEnd := ((took_reqBodyChunkedData cfg c).ok hok).1
  rw [e]
  decide

/-- REQ_BODY_CHUNKED_LENGTH enters the chunk-data state only with a positive chunk length -/
theorem owed_reqChunkedLengthLoop (cfg : Cfg) (fuel : Nat) (c : Conn) (hs : c.inState = .bodyChunkedLength) :
    OwedPos (reqChunkedLengthLoop cfg fuel c).1 := by
  induction fuel generalizing c with
  | zero => unfold reqChunkedLengthLoop; exact owedPos_of_notOwing (notOwing_of_eq hs ⟨by decide, by decide⟩)
  | succ k ih =>
    unfold reqChunkedLengthLoop
    cases hn : c.inn.copyByte with
    | none => exact owedPos_of_notOwing (notOwing_of_eq hs ⟨by decide, by decide⟩)
    | some p =>
      obtain ⟨d, b⟩ := p
      simp -zeta only
      extract_lets c0
      have h0 : c0.inState = .bodyChunkedLength := hs
      refine ite_fst (fun _ => ?_) fun _ => ?_
      · exact ih _ h0
      · cases hc : c0.inn.consolidate cfg.fieldLimitHard true with
        | none => exact owedPos_of_notOwing (notOwing_of_eq h0 ⟨by decide, by decide⟩)
        | some q =>
          obtain ⟨d2, data⟩ := q
          simp -zeta only
          extract_lets c1 line src c2
          have h1 : c1.inState = .bodyChunkedLength := Eq.trans (still_modIn _ { c0 with inn := d2 }).inState h0
          have h2 : c2.inState = .bodyChunkedLength := h1
          have hcl : c2.inn.chunkedLength = (Num.parseChunkedLength line).1 := rfl
          clear_value c2 c1
          refine ite_fst (fun _ => ?_) fun _ => ?_
          · rename_i hpos
            refine ⟨fun e => ?_, fun _ => ?_⟩
            · have e' : ReqState.bodyChunkedData = ReqState.bodyIdentity := e
              exact absurd e' (by decide)
            · show 0 < c2.inn.chunkedLength
              rw [hcl]; exact hpos
          · refine ite_fst (fun _ => ?_) fun _ => ?_
            · exact owedPos_of_notOwing (notOwing_of_eq (s := .headers) (still_modIn _ { c2 with inState := .headers }).inState ⟨by decide, by decide⟩)
            · exact owedPos_of_notOwing (notOwing_of_eq h2 ⟨by decide, by decide⟩)

/-- REQ_BODY_IDENTITY, whatever it answers: it takes min(owed, available) bytes and leaves the state exactly when nothing is owed any more -/
theorem owed_reqBodyIdentity (cfg : Cfg) (c : Conn) (h : OwedPos c) (hs : c.inState = .bodyIdentity) :
    OwedPos (reqBodyIdentity cfg c).1 := by
  have ne : ∀ {x : Conn}, x.inState = c.inState → x.inState ≠ .bodyChunkedData :=
    fun e x => absurd ((e.trans hs).symm.trans x) (by decide)
  rcases (took_reqBodyIdentity cfg c).owes (h.1 hs) with e | ⟨e1, e2⟩
  · have e : (reqBodyIdentity cfg c).1.inState = .finalize := e
    exact owedPos_of_notOwing (e ▸ by decide)
  · exact ⟨fun _ => e1, fun x => absurd x (ne e2)⟩

theorem owed_reqBodyChunkedData (cfg : Cfg) (c : Conn) (h : OwedPos c) (hs : c.inState = .bodyChunkedData) :
    OwedPos (reqBodyChunkedData cfg c).1 := by
  have ne : ∀ {x : Conn}, x.inState = c.inState → x.inState ≠ .bodyIdentity :=
    fun e x => absurd ((e.trans hs).symm.trans x) (by decide)
  rcases (took_reqBodyChunkedData cfg c).owes (h.2 hs) with e | ⟨e1, e2⟩
  · have e : (reqBodyChunkedData cfg c).1.inState = .bodyChunkedDataEnd := e
    exact owedPos_of_notOwing (e ▸ by decide)
  · exact ⟨fun x => absurd x (ne e2), fun _ => e1⟩

theorem owedPos_reqHandleStateChange (c : Conn) (h : OwedPos c) : OwedPos (reqHandleStateChange c).1 :=
  (reqTx_reqHandleStateChange c).still.owedPos h

theorem reqRelS_stTo (cfg : Cfg) : ReqRelS cfg False NotOwing (StTo NotOwing) where
  toReqFnRel := (reqTx_fn NotOwing).mono (fun t => t.2) StTo.trans
  same h := .inl (congrArg (·.inState) h)
  flag09 _ := .inl rfl
  cursor _ := .inl rfl
  txCreate c := .inl (keepSt_txCreate cfg c).1
  status _ _ := .inl rfl
  outTunnel _ := .inl rfl

/-- `hcl` is used in REQ_BODY_DETERMINE only, which copies the Content-Length into the amount owed unchecked (Conn/Req.lean): without it
    the statement is false (a stored Content-Length of -1) -/
theorem owedPos_reqStateFn (cfg : Cfg) (c : Conn) (h : OwedPos c)
    (hcl : c.inState = .bodyDetermine → c.inTx.reqTransferCoding = CODING_IDENTITY → 0 ≤ c.inTx.reqContentLength) :
    OwedPos (reqStateFn cfg c).1 := by
  -- a state that owes nothing is left for one that owes nothing, except from the four states below
  have via : ∀ {c' : Conn}, StTo NotOwing c c' → NotOwing c.inState → OwedPos c' :=
    fun st h0 => owedPos_of_notOwing (st.notOwing h0 fun _ h => h)
  have K := reqRelS_stTo cfg
  unfold reqStateFn
  cases hs : c.inState with
  | idle => exact via (walk_reqIdle K.toReqFnRel K.txCreate c) (hs ▸ by decide)
  | line => exact via (walk_reqLineLoop cfg K.toReqRel _ c) (hs ▸ by decide)
  | protocol => exact via (walk_reqProtocol K.toReqRel c) (hs ▸ by decide)
  | headers => exact via (walk_reqHeadersLoop cfg K.toReqRel _ c) (hs ▸ by decide)
  | connectCheck => exact via (walk_reqConnectCheck K c) (hs ▸ by decide)
  | connectWaitResponse => exact via (walk_reqConnectWaitResponse K.toReqRel c) (hs ▸ by decide)
  | connectProbeData => exact via (walk_reqConnectProbeLoop cfg K _ c) (hs ▸ by decide)
  | bodyDetermine => exact owed_reqBodyDetermine c hs (hcl hs)
  | bodyIdentity => exact owed_reqBodyIdentity cfg c h hs
  | bodyChunkedLength => exact owed_reqChunkedLengthLoop cfg _ c hs
  | bodyChunkedData => exact owed_reqBodyChunkedData cfg c h hs
  | bodyChunkedDataEnd => exact via (walk_reqChunkedDataEndLoop K.toReqRel _ c) (hs ▸ by decide)
  | finalize => exact via (walk_reqFinalize cfg K.toReqRel c) (hs ▸ by decide)
  | ignoreDataAfter09 => exact via (walk_reqIgnore K.toReqRel c) (hs ▸ by decide)

/-- the Content-Length recorded for an identity body is not negative whenever a pass of this call takes the framing decision -/
def ClAtDecision (cfg : Cfg) (c0 : Conn) : Prop :=
  ∀ c', CallReach cfg c0 c' → c'.inState = .bodyDetermine → c'.inTx.reqTransferCoding = CODING_IDENTITY → 0 ≤ c'.inTx.reqContentLength

/-- the counted body states are entered with a positive amount (REQ_BODY_DETERMINE from a non-negative Content-Length,
    REQ_BODY_CHUNKED_LENGTH from a positive chunk length), left when it reaches zero, and nothing else moves the parser into them or
    touches the amounts -/
theorem owedPos_along_call (cfg : Cfg) (c0 : Conn) (h0 : OwedPos c0) (hcl : ClAtDecision cfg c0) :
    ∀ c', CallReach cfg c0 c' → OwedPos c' := by
  intro c' hr
  induction hr with
  | start => exact h0
  | step c1 hr1 hok _ _ ih =>
    exact owedPos_reqHandleStateChange _ (owedPos_reqStateFn cfg c1 ih (hcl c1 hr1))

theorem owedPos_reqStoreChunk (d : Bytes) (c : Conn) (h : OwedPos c) : OwedPos (reqWakeOther (reqStoreChunk (some d) d.length c)) := by
  rw [reqWakeOther_eq]
  exact h

/-- **DATA means the whole chunk was consumed, whole request data call, from a state invariant**: the line buffer within the limit and the
    counted body states owing bytes at the START of the call are enough; inside the call the only outside fact used is `ClAtDecision` -/
theorem reqData_data_consumed_inv (cfg : Cfg) (d : Bytes) (c : Conn) (hs : (d.length : Int) < 18446744073709551616)
    (hb : inBufLen c ≤ cfg.fieldLimitHard) (h0 : OwedPos c)
    (hcl : ClAtDecision cfg (reqWakeOther (reqStoreChunk (some d) d.length c)))
    (hdata : (reqData cfg (some d) d.length c).2 = STREAM_DATA) :
    (reqData cfg (some d) d.length c).1.inn.read = (reqData cfg (some d) d.length c).1.inn.len :=
  reqData_data_consumed cfg d c hs hb (owedPos_along_call cfg _ (owedPos_reqStoreChunk d c h0) hcl) hdata

theorem still_reqEnds {cfg : Cfg} {c : Conn} {rc : Rc} {r : Conn × Nat} (h : ReqEnds cfg c rc r) : Still c r.1 := by
  obtain ⟨c3, d, s, h3, hd, _, rfl, _⟩ := h
  have k3 : Still c c3 := by
    rcases h3 with rfl | rfl
    · exact .refl _
    · exact (reqTx_reqReceiverSend false c).still
  refine k3.trans ?_
  rcases hd with rfl | hb
  · exact rfl
  · rw [Dir.buffer_same hb]

theorem owedPos_reqPassHook {c : Conn} (rc : Rc) (h : OwedPos c) : OwedPos (reqPassHook c rc).1 :=
  (walk_reqPassHook (reqTx_fn fun _ => False) c rc).still.owedPos h

/-- **the counted body states owe bytes at the end of the call's loop as well** (so, with the line-buffer bound, `OwedPos` is carried from one
    request data call to the next) -/
theorem reqDriverLoop_owedPos (cfg : Cfg) (fuel : Nat) (c0 c : Conn) (hr : CallReach cfg c0 c) (h : OwedPos c) (hcl : ClAtDecision cfg c0) :
    OwedPos (reqDriverLoop cfg false fuel c).1 :=
  (reqDriverLoop_is cfg false).rule (I := fun c => CallReach cfg c0 c ∧ OwedPos c) (Q := fun r => OwedPos r.1)
    (fun _ h => ⟨fun e => h.2.1 e, fun e => h.2.2 e⟩) (fun _ h => h.2)
    (fun c r h hs => by
      cases reqStep_false hs
      have hp : OwedPos (reqPass cfg c).1 := owedPos_reqPassHook _ (owedPos_reqStateFn cfg c h.2 (hcl c h.1))
      exact ⟨fun _ _ => hp, fun hok ht => ⟨h.1.pass hok (beq_eq_false_iff_ne.mpr ht), hp⟩, fun _ _ e => (still_reqEnds e).owedPos hp⟩)
    fuel c ⟨hr, h⟩

/-- the counted request body states owe bytes again after a data call that is not a gap (a chunk, or the close call `none 0`) -/
theorem reqData_owedPos (cfg : Cfg) (data : Option Bytes) (len : Nat) (c : Conn) (hg : (data.isNone && decide (len > 0)) = false)
    (h0 : OwedPos c) (hcl : ClAtDecision cfg (reqWakeOther (reqStoreChunk data len c))) : OwedPos (reqData cfg data len c).1 := by
  have hstore : OwedPos (reqWakeOther (reqStoreChunk data len c)) := by rw [reqWakeOther_eq]; exact h0
  rw [reqData_eq]
  have key := reqDataCore_cases (P := fun r => OwedPos r.1) cfg data len c (fun _ => h0) (fun _ => h0)
    (fun _ _ => ⟨fun e => h0.1 e, fun e => h0.2 e⟩) (fun _ _ => h0) (fun _ _ => ⟨fun e => h0.1 e, fun e => h0.2 e⟩) fun _ _ _ _ => by
      rw [hg]; exact reqDriverLoop_owedPos cfg _ _ _ CallReach.start hstore hcl
  exact ⟨fun e => key.1 e, fun e => key.2 e⟩

/-- **a request-direction call invariant**: the line buffer within the hard limit and the counted body states owing bytes - both hold again
    when htp_connp_req_data returns, for any chunk of data and any callback policy (outside fact used: `ClAtDecision`) -/
theorem reqData_invariant (cfg : Cfg) (d : Bytes) (c : Conn) (hs : (d.length : Int) < 18446744073709551616)
    (hb : inBufLen c ≤ cfg.fieldLimitHard) (h0 : OwedPos c)
    (hcl : ClAtDecision cfg (reqWakeOther (reqStoreChunk (some d) d.length c))) :
    inBufLen (reqData cfg (some d) d.length c).1 ≤ cfg.fieldLimitHard ∧ OwedPos (reqData cfg (some d) d.length c).1 := by
  exact ⟨reqData_buffer_bounded cfg d c hs hb fun c' hr => owedOK_of_pos (owedPos_along_call cfg _ (owedPos_reqStoreChunk d c h0) hcl c' hr),
    reqData_owedPos cfg _ _ c rfl h0 hcl⟩

end Htp.Conn
