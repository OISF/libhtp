/- The Content-Length invariant `ClOK` (Lemmas/TxsRel.lean: every stored transaction whose request transfer coding is IDENTITY has a
   non-negative request Content-Length) over a request data call (over histories: `clOK_runCalls`, Lemmas/History.lean). Nothing is proved
   function by function here: that every function keeps `ClOK` is the clause `cl` of `TxsRel`, which the walk of Lemmas/ConnSweep.lean
   carries (`.tx.cl`). Read off for every state a pass of a request data call starts from, it gives `ClAtDecision`, the one outside
   hypothesis of the whole-call theorems of the request direction (Lemmas/Owed.lean). -/
import HtpModel.Lemmas.ConnSweepOut
import HtpModel.Lemmas.Owed
namespace Htp.Conn
open Htp Htp.Gen

structure KeepCl (c c' : Conn) : Prop where
  keep : ClOK c → ClOK c'

theorem KeepCl.refl (c : Conn) : KeepCl c c := ⟨id⟩
theorem KeepCl.trans {a b c : Conn} (h1 : KeepCl a b) (h2 : KeepCl b c) : KeepCl a c := ⟨fun h => h2.keep (h1.keep h)⟩

theorem buffer_keepCl (c : Conn) (d' : Dir) : KeepCl c { c with inn := d' } := ⟨id⟩

theorem clOK_along_call (cfg : Cfg) (c0 : Conn) (h0 : ClOK c0) : ∀ c', CallReach cfg c0 c' → ClOK c' := by
  intro c' hr
  induction hr with
  | start => exact h0
  | step c1 hr1 hok _ _ ih => exact (keeps_reqHandleStateChange cfg _).tx.cl ((keeps_reqStateFn cfg c1).tx.cl ih)

theorem clAtDecision_of_clOK (cfg : Cfg) (c0 : Conn) (h : ClOK c0) : ClAtDecision cfg c0 :=
  fun c' hr _ => clOKTx_inTx (clOK_along_call cfg c0 h c' hr)

theorem clAtDecision_store (cfg : Cfg) (data : Option Bytes) (len : Nat) (c : Conn) (h : ClOK c) :
    ClAtDecision cfg (reqWakeOther (reqStoreChunk data len c)) :=
  clAtDecision_of_clOK cfg _ ((keeps_reqWakeOther (m := 0) _).tx.cl h)

end Htp.Conn
