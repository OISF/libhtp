/- Where the forward scans of the request-line and status-line parsers stop, and what a token byte is not (Props/C02). -/
import HtpModel.Lemmas.ListFacts
import HtpModel.Conn.Parsers
namespace Htp.Parse
open Htp Htp.Gen

theorem scanFwd_skip (q : UInt8 → Bool) (d pre mid : Bytes) (x : UInt8) (r : Bytes) (n : Nat)
    (hd : d = pre ++ mid ++ x :: r) (hn : n = pre.length) (hm : ∀ b ∈ mid, q b = false) (hx : q x = true) :
    scanFwd q d n = n + mid.length := by
  subst hd hn
  unfold scanFwd
  have hd : (pre ++ mid ++ x :: r).drop pre.length = mid ++ x :: r := by
    rw [List.append_assoc, List.drop_append]; simp
  rw [hd, takeWhile_stop _ mid x r (fun b hb => by simp [hm b hb]) (by simp [hx])]

theorem scanFwd_end (q : UInt8 → Bool) (pre mid : Bytes) (hm : ∀ b ∈ mid, q b = false) :
    scanFwd q (pre ++ mid) pre.length = pre.length + mid.length := by
  unfold scanFwd
  have hd : (pre ++ mid).drop pre.length = mid := by rw [List.drop_append]; simp
  rw [hd, takeWhile_all _ mid (fun b hb => by simp [hm b hb])]

theorem scanFwd_stay (q : UInt8 → Bool) (x : UInt8) (r : Bytes) (hx : q x = true) : scanFwd q (x :: r) 0 = 0 :=
  scanFwd_skip q _ [] [] x r 0 rfl rfl (by simp) hx

theorem sp20 : isSpace 0x20 = true := by decide
theorem csp20 : cIsspace 0x20 = true := by decide

section Line3
variable (q : UInt8 → Bool) (a b c : Bytes)

theorem line3_length : (a ++ 0x20 :: (b ++ 0x20 :: c)).length = a.length + 1 + b.length + 1 + c.length := by
  simp; omega

theorem line3_scan1 (ha : ∀ x ∈ a, q x = false) (hq : q 0x20 = true) :
    scanFwd q (a ++ 0x20 :: (b ++ 0x20 :: c)) 0 = a.length := by
  simpa using scanFwd_skip q _ [] a 0x20 (b ++ 0x20 :: c) 0 rfl rfl ha hq

theorem line3_scan2 (y : UInt8) (t : Bytes) (hb : b = y :: t) (hq : q 0x20 = false) (hy : q y = true) :
    scanFwd q (a ++ 0x20 :: (b ++ 0x20 :: c)) a.length = a.length + 1 := by
  subst hb
  exact scanFwd_skip q _ a [0x20] y (t ++ 0x20 :: c) _ (by simp) rfl (by simpa using hq) hy

theorem line3_scan3 (hb : ∀ x ∈ b, q x = false) (hq : q 0x20 = true) :
    scanFwd q (a ++ 0x20 :: (b ++ 0x20 :: c)) (a.length + 1) = a.length + 1 + b.length := by
  exact scanFwd_skip q _ (a ++ [0x20]) b 0x20 c _ (by simp) (by simp) hb hq

theorem line3_scan4 (y : UInt8) (t : Bytes) (hc : c = y :: t) (hq : q 0x20 = false) (hy : q y = true) :
    scanFwd q (a ++ 0x20 :: (b ++ 0x20 :: c)) (a.length + 1 + b.length) = a.length + 1 + b.length + 1 := by
  subst hc
  exact scanFwd_skip q _ (a ++ 0x20 :: b) [0x20] y t _ (by simp) (by simp; omega) (by simpa using hq) hy

theorem line3_field1 : ((a ++ 0x20 :: (b ++ 0x20 :: c)).drop 0).take (a.length - 0) = a := by simp

theorem line3_field2 :
    ((a ++ 0x20 :: (b ++ 0x20 :: c)).drop (a.length + 1)).take (a.length + 1 + b.length - (a.length + 1)) = b := by
  rw [show a ++ 0x20 :: (b ++ 0x20 :: c) = (a ++ [0x20]) ++ (b ++ 0x20 :: c) by simp, List.drop_left' (by simp),
    Nat.add_sub_cancel_left, List.take_left' rfl]

theorem line3_field3 : (a ++ 0x20 :: (b ++ 0x20 :: c)).drop (a.length + 1 + b.length + 1) = c := by
  rw [show a ++ 0x20 :: (b ++ 0x20 :: c) = (a ++ 0x20 :: b ++ [0x20]) ++ c by simp]
  exact List.drop_left' (by simp; omega)

end Line3

/-- what a token byte is not, for the header-line theorem of Props/C02 -/
theorem token_facts : ∀ c : UInt8, isToken c = true → ((c != 0 && c != 0x3a) = true ∧ isLws c = false) := by
  apply forall_uint8_of_lt
  decide +kernel

end Htp.Parse
