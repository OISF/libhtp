/- Lists only, nothing of the model: where a `takeWhile` / `dropWhile` scan stops, reads by index. -/
import HtpModel.Basic
namespace Htp

theorem drop_takeWhile {α} (p : α → Bool) (l : List α) : l.drop (l.takeWhile p).length = l.dropWhile p := by
  have := List.drop_left' (l₁ := l.takeWhile p) (l₂ := l.dropWhile p) rfl
  rwa [List.takeWhile_append_dropWhile] at this

/-- where a scan stops: at the end of the list, or before the first element that fails the test -/
theorem scan_cases {α} (p : α → Bool) (l : List α) :
    (l.takeWhile p = l ∧ l.dropWhile p = []) ∨ ∃ x t, p x = false ∧ l = l.takeWhile p ++ x :: t ∧ l.dropWhile p = x :: t := by
  have e := List.takeWhile_append_dropWhile (p := p) (l := l)
  have hh := List.head?_dropWhile_not p l
  cases hd : l.dropWhile p with
  | nil =>
    rw [hd, List.append_nil] at e
    exact .inl ⟨e, rfl⟩
  | cons x t =>
    rw [hd] at e hh
    exact .inr ⟨x, t, hh, e.symm, rfl⟩

theorem scan_bne_cases {α} [BEq α] [LawfulBEq α] (c : α) (l : List α) :
    (l.takeWhile (· != c) = l ∧ l.dropWhile (· != c) = []) ∨
      ∃ t, l = l.takeWhile (· != c) ++ c :: t ∧ l.dropWhile (· != c) = c :: t := by
  rcases scan_cases (· != c) l with h | ⟨x, t, hx, h⟩
  · exact .inl h
  · have hxc : x = c := by simpa using hx
    exact .inr ⟨t, hxc ▸ h⟩

theorem not_mem_takeWhile_bne {α} [BEq α] [LawfulBEq α] (c : α) (l : List α) : c ∉ l.takeWhile (· != c) := by
  intro hc
  simpa using List.all_eq_true.mp List.all_takeWhile c hc

theorem takeWhile_all {α} (q : α → Bool) (l : List α) (h : ∀ b ∈ l, q b = true) : l.takeWhile q = l := by
  simpa using List.takeWhile_append_of_pos (l₂ := []) h

theorem dropWhile_all {α} (q : α → Bool) (l : List α) (h : ∀ b ∈ l, q b = true) : l.dropWhile q = [] := by
  simpa using List.dropWhile_append_of_pos (l₂ := []) h

theorem takeWhile_stop {α} (q : α → Bool) (l : List α) (x : α) (r : List α) (h : ∀ b ∈ l, q b = true) (hx : q x = false) :
    (l ++ x :: r).takeWhile q = l := by
  rw [List.takeWhile_append_of_pos h, List.takeWhile_cons_of_neg (by simp [hx]), List.append_nil]

theorem dropWhile_stop {α} (q : α → Bool) (l : List α) (x : α) (r : List α) (h : ∀ b ∈ l, q b = true) (hx : q x = false) :
    (l ++ x :: r).dropWhile q = x :: r := by
  rw [List.dropWhile_append_of_pos h, List.dropWhile_cons_of_neg (by simp [hx])]

theorem takeWhile_head_false {α} (p : α → Bool) (l : List α) (h : ∀ y, l.head? = some y → p y = false) : l.takeWhile p = [] := by
  cases l with
  | nil => rfl
  | cons y t => simp [List.takeWhile, h y rfl]

theorem getD_mem_drop {α} (l : List α) (pos : Nat) (d : α) (h : pos < l.length) : l.getD pos d ∈ l.drop pos := by
  have : l.getD pos d = l[pos] := by simp [List.getD, h]
  rw [this]
  exact List.mem_drop_iff_getElem.mpr ⟨0, by simpa using h, by simp⟩

theorem filterMap_eq_map_of_some {α β} (g : α → Option β) (f : α → β) (l : List α) (h : ∀ a ∈ l, g a = some (f a)) :
    l.filterMap g = l.map f := by
  induction l with
  | nil => rfl
  | cons a t ih => simp [h a (by simp), ih (fun x hx => h x (by simp [hx]))]

/-- A table that is the tabulation of `g` - one linear pass to check - reads `g i` at every index; the pointwise sweep
    `∀ i < n, t.getD i d = g i` would walk the list once per index. -/
theorem getD_of_eq_map_range {α : Type} {t : List α} {g : Nat → α} {n : Nat} (h : t = (List.range n).map g)
    {i : Nat} (hi : i < n) (d : α) : t.getD i d = g i := by
  subst h
  simp [List.getD_eq_getElem?_getD, hi]

theorem length_ite_snoc_le {α} (p : Prop) [Decidable p] (l : List α) (x : α) : (if p then l ++ [x] else l).length ≤ l.length + 1 := by
  split
  · simp
  · exact Nat.le_succ _

end Htp
