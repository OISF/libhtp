/- The dot-segment remover (htp_normalize_uri_path_inplace) leaves no "." or ".." segment (`DotFree`; invariant of the loop: the reversed
   output is `DotFree`, and `SegStart`) and leaves a `DotFree` path as it is (every rule application is rule E). Entry points for stating
   hypotheses: `segs_noslash` (a path without '/' is one segment), `isDotSeg_iff` (to byte literals; `SL`, `DOT` are `0x2f`, `0x2e` by `rfl`). -/
import HtpModel.Lemmas.Decode
import HtpModel.Lemmas.ListFacts
namespace Htp.Decode
open Htp Htp.Gen

def SL : UInt8 := 0x2f
def DOT : UInt8 := 0x2e

/-- the segments of a path: split on '/' -/
def segs : Bytes → List Bytes
  | [] => [[]]
  | c :: rest =>
    if c == SL then [] :: segs rest
    else match segs rest with
      | p :: ps => (c :: p) :: ps
      | [] => [[c]]

def isDotSeg (s : Bytes) : Bool := s == [DOT] || s == [DOT, DOT]

def DotFree (p : Bytes) : Prop := ∀ s ∈ segs p, isDotSeg s = false

theorem segs_ne_nil (p : Bytes) : segs p ≠ [] := by
  cases p with
  | nil => exact List.cons_ne_nil _ _
  | cons c r =>
    unfold segs
    split
    · exact List.cons_ne_nil _ _
    · split <;> exact List.cons_ne_nil _ _

theorem segs_cons_sl (r : Bytes) : segs (SL :: r) = [] :: segs r := rfl

theorem segs_cons_ne (c : UInt8) (r : Bytes) (h : c ≠ SL) :
    segs (c :: r) = (match segs r with | p :: ps => (c :: p) :: ps | [] => [[c]]) := by
  simp only [segs, beq_false_of_ne h, Bool.false_eq_true, if_false]

theorem segs_append_sl (p r : Bytes) : segs (p ++ SL :: r) = segs p ++ segs r := by
  induction p with
  | nil => rfl
  | cons c t ih =>
    rw [List.cons_append]
    by_cases hc : c = SL
    · subst hc
      rw [segs_cons_sl, segs_cons_sl, ih]
      rfl
    · rw [segs_cons_ne _ _ hc, segs_cons_ne _ _ hc, ih]
      cases hs : segs t with
      | nil => exact absurd hs (segs_ne_nil t)
      | cons q qs => rfl

theorem segs_noslash (p : Bytes) (hp : SL ∉ p) : segs p = [p] := by
  induction p with
  | nil => rfl
  | cons c t ih =>
    rw [segs_cons_ne _ _ (fun e => hp (e ▸ List.mem_cons_self)), ih (fun hb => hp (List.mem_cons_of_mem _ hb))]

theorem dotFree_nil : DotFree [] := by
  intro s hs
  cases List.mem_singleton.mp hs
  rfl

theorem dotFree_append_sl (p r : Bytes) : DotFree (p ++ SL :: r) ↔ DotFree p ∧ DotFree r := by
  simp only [DotFree, segs_append_sl, List.mem_append]
  exact ⟨fun h => ⟨fun s hs => h s (.inl hs), fun s hs => h s (.inr hs)⟩, fun h s hs => hs.elim (h.1 s) (h.2 s)⟩

def segOf (rest : Bytes) : Bytes := rest.takeWhile (· != SL)

theorem segOf_cons_ne (r0 : UInt8) (rs : Bytes) (h : r0 ≠ SL) : segOf (r0 :: rs) = r0 :: segOf rs :=
  List.takeWhile_cons_of_pos (by simpa using h)
theorem segOf_nil : segOf [] = [] := rfl

theorem segOf_eq (rest s : Bytes) (h : segOf rest = s) : rest = s ∨ ∃ more, rest = s ++ SL :: more := by
  subst h
  rcases scan_bne_cases SL rest with ⟨e, -⟩ | ⟨t, e, -⟩
  · exact .inl e.symm
  · exact .inr ⟨t, e⟩

theorem copySegment_eq (rest out : Bytes) :
    copySegment rest out = (rest.dropWhile (· != SL), (rest.takeWhile (· != SL)).reverse ++ out) := by
  induction rest generalizing out with
  | nil => rfl
  | cons c t ih =>
    by_cases h : c = SL
    · subst h
      rfl
    · have hc : (c != SL) = true := bne_iff_ne.mpr h
      rw [copySegment, if_neg (by simpa [SL] using h), ih, List.dropWhile_cons_of_pos (p := (· != SL)) hc,
        List.takeWhile_cons_of_pos (p := (· != SL)) hc, List.reverse_cons, List.append_assoc]
      rfl

theorem isDotSeg_iff (s : Bytes) : isDotSeg s = true ↔ s = [DOT] ∨ s = [DOT, DOT] := by
  simp [isDotSeg]

/-- "." and ".." read the same in both directions -/
theorem isDotSeg_reverse (s : Bytes) : isDotSeg s.reverse = isDotSeg s := by
  rw [Bool.eq_iff_iff, isDotSeg_iff, isDotSeg_iff, List.reverse_eq_iff, List.reverse_eq_iff]
  rfl

theorem isDotSeg_first (a : UInt8) (t : Bytes) (h : a ≠ DOT) : isDotSeg (a :: t) = false := by
  rw [Bool.eq_false_iff, Ne, isDotSeg_iff]
  simp [h]

theorem dotFree_single (seg : Bytes) (hs : SL ∉ seg) (hseg : isDotSeg seg = false) : DotFree seg.reverse := by
  intro s hm
  rw [segs_noslash _ (fun hb => hs (List.mem_reverse.mp hb))] at hm
  cases List.mem_singleton.mp hm
  rw [isDotSeg_reverse]
  exact hseg

theorem dotFree_tail_sl (r : Bytes) (h : DotFree (SL :: r)) : DotFree r :=
  ((dotFree_append_sl [] r).mp h).2

theorem dotFree_dropWhile (p : Bytes) (h : DotFree p) : DotFree (p.dropWhile (· != SL)) := by
  rcases scan_bne_cases SL p with ⟨-, hd⟩ | ⟨t, e, hd⟩
  · rw [hd]
    exact dotFree_nil
  · rw [hd]
    rw [e] at h
    exact (dotFree_append_sl [] t).mpr ⟨dotFree_nil, ((dotFree_append_sl _ _).mp h).2⟩

theorem dotFree_dropLast (out : Bytes) (hd : DotFree out) : DotFree (dropLastSegment out) := by
  have h := dotFree_dropWhile out hd
  unfold dropLastSegment
  rcases scan_bne_cases SL out with ⟨-, e⟩ | ⟨t, -, e⟩
  · rw [show List.dropWhile (· != 0x2f) out = [] from e]
    exact dotFree_nil
  · rw [show List.dropWhile (· != 0x2f) out = SL :: t from e]
    exact dotFree_tail_sl t (e ▸ h)

/-- loop invariant of the dot-segment remover: unless nothing has been written yet or the input is used up, the character the
    rules look at next - the pending one, else the next unread one - is a slash, so every segment is written from its first byte -/
def SegStart (rest out : Bytes) (c : Option UInt8) : Prop :=
  out = [] ∨ rest = [] ∨ (c <|> rest.head?) = some SL

/-- what the loop needs of the result of one rule application: the output stays free of dot segments, and if the loop goes on
    the invariant holds again -/
structure StepOk (res : Bytes × Option (Bytes × Option UInt8)) : Prop where
  dotFree : DotFree res.1
  inv : ∀ r' c', res.2 = some (r', c') → SegStart r' res.1 c'

theorem StepOk.stop {out : Bytes} (hd : DotFree out) : StepOk (out, none) :=
  ⟨hd, fun _ _ he => nomatch he⟩

theorem StepOk.next {out rest : Bytes} {c : Option UInt8} (hd : DotFree out) (hj : SegStart rest out c) : StepOk (out, some (rest, c)) :=
  ⟨hd, fun _ _ he => by cases he; exact hj⟩

theorem ruleE_ok (c : UInt8) (rest out : Bytes) (hd : DotFree out) (hj : c ≠ SL → out = [])
    (h1 : c = SL → isDotSeg (segOf rest) = false) (h2 : c ≠ SL → isDotSeg (c :: segOf rest) = false) :
    StepOk ((copySegment rest (c :: out)).2, some ((copySegment rest (c :: out)).1, none)) := by
  rw [copySegment_eq]
  apply StepOk.next
  · by_cases hc : c = SL
    · subst hc
      exact (dotFree_append_sl _ _).mpr ⟨dotFree_single _ (not_mem_takeWhile_bne SL rest) (h1 rfl), hd⟩
    · rw [hj hc]
      dsimp only
      rw [← List.reverse_cons]
      exact dotFree_single (c :: segOf rest)
        (fun hm => (List.mem_cons.mp hm).elim (fun e => hc e.symm) (not_mem_takeWhile_bne SL rest)) (h2 hc)
  · rcases scan_bne_cases SL rest with ⟨-, h⟩ | ⟨t, -, h⟩
    · exact .inr (.inl h)
    · exact .inr (.inr (by rw [h]; rfl))

/-- the rules that look for the segment `s` ahead (alone, or followed by a slash) did not match: the segment ahead is not `s` -/
theorem segOf_ne (rest s : Bytes) (h1 : rest = s → False) (h2 : ∀ more, rest = s ++ SL :: more → False) : segOf rest ≠ s :=
  fun h => (segOf_eq rest s h).elim h1 fun ⟨more, e⟩ => h2 more e

theorem ruleE_form (r o : Bytes) :
    (match copySegment r o with | (rest', out') => (out', some (rest', (none : Option UInt8)))) =
      ((copySegment r o).2, some ((copySegment r o).1, none)) := by
  cases copySegment r o; rfl

theorem normRules_ok (c : UInt8) (rest out : Bytes) (hd : DotFree out) (hj : c ≠ SL → out = []) :
    StepOk (normRules c rest out) := by
  have hdl := dotFree_dropLast out hd
  unfold normRules
  dsimp only
  split
  · -- c = '.', so nothing has been written yet
    rename_i hc
    have hcd : c = DOT := by simpa [DOT] using hc
    have ho : out = [] := hj (by rw [hcd]; decide)
    split
    · exact .next hd (.inl ho)
    · exact .next hd (.inl ho)
    · exact .stop hd
    · exact .stop hd
    · rename_i hA1 hA2 hD1 hD2
      exact ruleE_ok c rest out hd hj (fun h => absurd (hcd ▸ h) (by decide))
        (fun _ => by
          rw [hcd, Bool.eq_false_iff, Ne, isDotSeg_iff]
          rintro (h | h)
          · exact segOf_ne rest [] hD1 hA2 (List.cons.inj h).2
          · exact segOf_ne rest [DOT] hD2 hA1 (List.cons.inj h).2)
  · split
    · -- c = '/': a slash stays pending
      rename_i hc
      have hcs : c = SL := by simpa [SL] using hc
      split
      · exact .next hd (.inr (.inr rfl))
      · exact .stop hd
      · exact .next hdl (.inr (.inr rfl))
      · exact .stop hdl
      · rename_i hB1 hB2 hC1 hC2
        refine ruleE_ok c rest out hd hj (fun _ => ?_) (fun h => absurd hcs h)
        rw [Bool.eq_false_iff, Ne, isDotSeg_iff]
        rintro (h | h)
        · exact segOf_ne rest [DOT] hB2 hB1 h
        · exact segOf_ne rest [DOT, DOT] hC2 hC1 h
    · -- any other character
      rename_i hc1 hc2
      have h1 : c ≠ DOT := by simpa [DOT] using hc1
      have h2 : c ≠ SL := by simpa [SL] using hc2
      exact ruleE_ok c rest out hd hj (fun h => absurd h h2) (fun _ => isDotSeg_first _ _ h1)

theorem normLoop_dotFree (fuel : Nat) (rest out : Bytes) (c : Option UInt8) (hd : DotFree out) (hj : SegStart rest out c) :
    DotFree (normLoop fuel rest out c) := by
  induction fuel generalizing rest out c with
  | zero => exact hd
  | succ k ih =>
    cases rest with
    | nil => exact hd
    | cons r rest' =>
      rw [normLoop_succ_cons]
      have hpre : c.getD r ≠ SL → out = [] := by
        intro hne
        rcases hj with h | h | h
        · exact h
        · exact absurd h (List.cons_ne_nil _ _)
        · cases c <;> exact absurd (Option.some.inj h) hne
      have hok := normRules_ok (c.getD r) (if c.isSome then r :: rest' else rest') out hd hpre
      generalize normRules _ _ _ = res at hok ⊢
      obtain ⟨out', _ | ⟨r'', c'⟩⟩ := res
      · exact hok.dotFree
      · exact ih r'' out' c' hok.dotFree (hok.inv r'' c' rfl)

theorem segs_snoc_ne (l : Bytes) (c : UInt8) (hc : c ≠ SL) :
    segs (l ++ [c]) = (segs l).dropLast ++ [((segs l).getLast?.getD []) ++ [c]] := by
  induction l with
  | nil => simp [segs, hc]
  | cons d t ih =>
    by_cases hd : d = SL
    · subst hd
      rw [List.cons_append, segs_cons_sl, segs_cons_sl, ih]
      cases hs : segs t with
      | nil => exact absurd hs (segs_ne_nil t)
      | cons p ps => simp [List.dropLast, List.getLast?_cons_cons]
    · rw [List.cons_append, segs_cons_ne _ _ hd, segs_cons_ne _ _ hd, ih]
      cases hs : segs t with
      | nil => exact absurd hs (segs_ne_nil t)
      | cons p ps =>
        cases ps with
        | nil => simp
        | cons q qs => simp [List.dropLast, List.getLast?_cons_cons]

theorem segs_reverse (p : Bytes) : segs p.reverse = (segs p).reverse.map List.reverse := by
  induction p with
  | nil => rfl
  | cons c t ih =>
    rw [List.reverse_cons]
    by_cases hc : c = SL
    · subst hc
      rw [segs_append_sl, ih, segs_cons_sl]
      simp [segs]
    · rw [segs_snoc_ne _ _ hc, ih, segs_cons_ne _ _ hc]
      cases hs : segs t with
      | nil => exact absurd hs (segs_ne_nil t)
      | cons q qs => simp

theorem dotFree_reverse (p : Bytes) (h : DotFree p) : DotFree p.reverse := by
  intro s hs
  rw [segs_reverse] at hs
  simp only [List.mem_map, List.mem_reverse] at hs
  obtain ⟨s', hs', e⟩ := hs
  rw [← e, isDotSeg_reverse]
  exact h s' hs'

theorem normalizePath_dotFree (input : Bytes) : DotFree (normalizePath input) :=
  dotFree_reverse _ (normLoop_dotFree _ input [] none dotFree_nil (.inl rfl))

theorem segs_head (p : Bytes) : ∃ tl, segs p = segOf p :: tl := by
  induction p with
  | nil => exact ⟨[], rfl⟩
  | cons c r ih =>
    by_cases h : c = SL
    · subst h; exact ⟨segs r, rfl⟩
    · obtain ⟨tl, e⟩ := ih
      exact ⟨tl, by rw [segs_cons_ne _ _ h, e, segOf_cons_ne _ _ h]⟩

/-- on a path whose unread part has no dot segment, every rule application is rule E (copy one segment) -/
theorem normRules_E (c : UInt8) (rest out : Bytes)
    (h1 : c = DOT → isDotSeg (DOT :: segOf rest) = false) (h2 : c = SL → isDotSeg (segOf rest) = false) :
    normRules c rest out = ((copySegment rest (c :: out)).2, some ((copySegment rest (c :: out)).1, none)) := by
  unfold normRules
  dsimp only
  split
  · rename_i hc
    have h1 := h1 (by simpa [DOT] using hc)
    -- in the cases of rules A and D the segment ahead evaluates to "." or ".."
    split
    · cases h1
    · cases h1
    · cases h1
    · cases h1
    · rfl
  · split
    · rename_i hc
      have h2 := h2 (by simpa [SL] using hc)
      split
      · cases h2
      · cases h2
      · cases h2
      · cases h2
      · rfl
    · rfl

theorem normLoop_id (fuel : Nat) (rest out : Bytes) (hf : rest.length < fuel) (hd : DotFree rest) :
    normLoop fuel rest out none = rest.reverse ++ out := by
  induction fuel generalizing rest out with
  | zero => omega
  | succ k ih =>
    cases rest with
    | nil => rfl
    | cons r rest' =>
      have hseg : isDotSeg (segOf (r :: rest')) = false := by
        obtain ⟨tl, e⟩ := segs_head (r :: rest')
        exact hd _ (e ▸ List.mem_cons_self)
      have h1 : r = DOT → isDotSeg (DOT :: segOf rest') = false := by
        intro h; subst h; exact hseg
      have h2 : r = SL → isDotSeg (segOf rest') = false := by
        intro h; subst h
        obtain ⟨tl, e⟩ := segs_head rest'
        exact dotFree_tail_sl _ hd _ (e ▸ List.mem_cons_self)
      have hdf : DotFree (rest'.dropWhile (· != SL)) := by
        by_cases hr : r = SL
        · subst hr; exact dotFree_dropWhile _ (dotFree_tail_sl _ hd)
        · have := dotFree_dropWhile _ hd
          rwa [List.dropWhile_cons_of_pos (by simpa using hr)] at this
      have hl := (List.dropWhile_suffix (l := rest') (· != SL)).length_le
      have e := List.takeWhile_append_dropWhile (p := (· != SL)) (l := rest')
      show normNext k (normRules r rest' out) = _
      rw [normRules_E r rest' out h1 h2, copySegment_eq]
      show normLoop k _ _ none = _
      rw [ih _ _ (by simp only [List.length_cons] at hf; omega) hdf, ← List.append_assoc, ← List.reverse_append, e,
        List.reverse_cons, List.append_assoc]
      rfl

theorem normalizePath_of_dotFree (p : Bytes) (h : DotFree p) : normalizePath p = p := by
  unfold normalizePath
  rw [normLoop_id _ _ _ (by omega) h, List.append_nil, List.reverse_reverse]

end Htp.Decode
