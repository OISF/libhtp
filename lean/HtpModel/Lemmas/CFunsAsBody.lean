/- htp_treat_response_line_as_body (htp_util.c) as translated in HtpModel/Gen/CFuns.lean = the model's
   `Parse.treatResponseLineAsBody` for all byte strings: skip white space / NUL bytes, then "http" in either case, the guard
   `len < pos + 4` keeping the four reads inside the array. The `data == NULL` test is `false` in the translation (non-NULL
   parameters are an assumption of the translator). -/
import HtpModel.Lemmas.CFunsClasses
import HtpModel.Conn.Parsers
namespace Htp.CFuns
open Htp Htp.CSem Htp.Gen.C Htp.Gen
set_option linter.unusedSimpArgs false

/-- what the C does after the skip loop, on the bytes from `pos` on -/
def notHttp (rest : Bytes) : Bool :=
  match rest with
  | a :: b :: c :: d :: _ =>
    !((a == 0x48 || a == 0x68) && (b == 0x54 || b == 0x74) && (c == 0x54 || c == 0x74) && (d == 0x50 || d == 0x70))
  | _ => true

theorem treatResponseLineAsBody_eq (d : Bytes) :
    Parse.treatResponseLineAsBody d = notHttp (d.dropWhile (fun c => isSpace c || c == 0)) := rfl

/-- the loop condition on one byte: `htp_is_space(c) || c == 0` -/
theorem skip_table (c : UInt8) :
    (decide ((if spaceB (c.toNat : Int) then (1 : Int) else 0) ≠ 0) || decide ((c.toNat : Int) = 0)) = (isSpace c || c == 0) := by
  rw [space_table, show decide ((c.toNat : Int) = 0) = (c == 0) from dec_byte c 0]
  cases isSpace c <;> rfl

/-- `c != 'H' && c != 'h'` and its like: neither of two characters -/
theorem ne2_table (c a b : UInt8) :
    (decide ((c.toNat : Int) ≠ a.toNat) && decide ((c.toNat : Int) ≠ b.toNat)) = !(c == a || c == b) := by
  rw [decide_not, decide_not, dec_byte, dec_byte, Bool.not_or]
theorem ne2_table_Hh (c : UInt8) : (decide ((c.toNat : Int) ≠ 72) && decide ((c.toNat : Int) ≠ 104)) = !(c == 0x48 || c == 0x68) := ne2_table c 0x48 0x68
theorem ne2_table_Tt (c : UInt8) : (decide ((c.toNat : Int) ≠ 84) && decide ((c.toNat : Int) ≠ 116)) = !(c == 0x54 || c == 0x74) := ne2_table c 0x54 0x74
theorem ne2_table_Pp (c : UInt8) : (decide ((c.toNat : Int) ≠ 80) && decide ((c.toNat : Int) ≠ 112)) = !(c == 0x50 || c == 0x70) := ne2_table c 0x50 0x70

abbrev T (d : Bytes) (p : Nat) : St_htp_treat_response_line_as_body := { len := d.length, pos := p }

theorem asbody_rest (F : Nat) (d : Bytes) (h1 : d.length < 9223372036854775808) (a : Bytes) (p : Nat)
    (ha : d.drop p = a) (hp : p ≤ d.length) :
    retVal (htp_treat_response_line_as_body_rest1 F d (T d p)) = some (b2i (notHttp a)) := by
  have hlen : a.length = d.length - p := by rw [← ha]; simp
  have hu4 : u64 ((p : Int) + 4) = (p : Int) + 4 := by rw [u64_id] <;> omega
  match a, ha, hlen with
  | [], _, hlen | [_], _, hlen | [_, _], _, hlen | [_, _, _], _, hlen =>
    have : ((d.length : Int) < (p : Int) + 4) := by simp at hlen; omega
    simp [htp_treat_response_line_as_body_rest1, retS, retVal_ret, hu4, this, notHttp, b2i]
  | x :: y :: z :: w :: t, ha, hlen =>
    simp only [List.length_cons] at hlen
    have hge : ¬ ((d.length : Int) < (p : Int) + 4) := by omega
    have hu1 : u64 ((p : Int) + 1) = (p : Int) + 1 := by rw [u64_id] <;> omega
    have hu2 : u64 ((p : Int) + 2) = (p : Int) + 2 := by rw [u64_id] <;> omega
    have hu3 : u64 ((p : Int) + 3) = (p : Int) + 3 := by rw [u64_id] <;> omega
    have r0 : rd d (p : Int) = some (x.toNat : Int) := rd_of_drop ha
    have r1 : rd d ((p : Int) + 1) = some (y.toNat : Int) := rd_off (k := 1) (by rw [ha]; rfl)
    have r2 : rd d ((p : Int) + 2) = some (z.toNat : Int) := rd_off (k := 2) (by rw [ha]; rfl)
    have r3 : rd d ((p : Int) + 3) = some (w.toNat : Int) := rd_off (k := 3) (by rw [ha]; rfl)
    -- the five `if (..) return 1;` become one chain of tests on the four bytes
    simp only [htp_treat_response_line_as_body_rest1, seqS_iteS, seqS_retS, seqS_skipS, retS, T, hu4, hge, hu1, hu2, hu3, r0, r1, r2, r3,
      Option.bind_some, andL_some, ne2_table_Hh, ne2_table_Tt, ne2_table_Pp, notHttp, decide_false, Bool.false_eq_true, if_false,
      Option.map_some]
    generalize (x == 0x48 || x == 0x68) = b0
    generalize (y == 0x54 || y == 0x74) = b1
    generalize (z == 0x54 || z == 0x74) = b2
    generalize (w == 0x50 || w == 0x70) = b3
    cases b0 <;> cases b1 <;> cases b2 <;> cases b3 <;> rfl

theorem asbody_loop (F : Nat) (d : Bytes) (h1 : d.length < 9223372036854775808) (n p : Nat) (hp : p ≤ d.length) (hn : d.length - p < n) :
    retVal (seqS (whileF (htp_treat_response_line_as_body_cond1 F d) (htp_treat_response_line_as_body_body1 F d)
              (htp_treat_response_line_as_body_incr1 F d) n) (htp_treat_response_line_as_body_rest1 F d) (T d p))
          = some (b2i (notHttp ((d.drop p).dropWhile (fun c => isSpace c || c == 0)))) := by
  refine loop_eq retVal (T d) (· ≤ d.length) (d.length - ·)
    (fun p => some (b2i (notHttp ((d.drop p).dropWhile (fun c => isSpace c || c == 0))))) ?_ n p hp hn
  intro p hp again ih
  unfold turn
  obtain ⟨ha, hl⟩ | ⟨x, a', ha, hl, r1, ht⟩ := drop_cases d p
  · have hpe : (p : Int) = d.length := by omega
    have hc : htp_treat_response_line_as_body_cond1 F d (T d p) = some false := by
      simp [htp_treat_response_line_as_body_cond1, T, hpe, andL]
    rw [hc, Option.bind_some, if_neg Bool.false_ne_true, ha]
    exact asbody_rest F d h1 [] p ha hp
  · have c1 : ((p : Int) < d.length) := by omega
    have hcv : htp_treat_response_line_as_body_cond1 F d (T d p) = some (isSpace x || x == 0) := by
      simp only [htp_treat_response_line_as_body_cond1, T, c1, decide_true, r1, Option.bind_some, htp_is_space_int, orL_some,
        andL_some, skip_table, Bool.true_and]
    rw [hcv, Option.bind_some, ha]
    cases hx : (isSpace x || x == 0) with
    | true =>
      have hb1 : htp_treat_response_line_as_body_body1 F d (T d p) = some (.next (T d (p + 1))) := by
        simp [htp_treat_response_line_as_body_body1, assignS, T, u64_succ p (by omega)]
      have hi : htp_treat_response_line_as_body_incr1 F d (T d (p + 1)) = some (.next (T d (p + 1))) := rfl
      rw [if_pos rfl, hb1, go_next, hi, go_next, ih (p + 1) hl (Nat.sub_lt_sub_left hl (Nat.lt_succ_self p)), ht,
        List.dropWhile_cons_of_pos (by simpa using hx)]
    | false =>
      rw [if_neg Bool.false_ne_true, List.dropWhile_cons_of_neg (by simp [hx])]
      exact asbody_rest F d h1 (x :: a') p ha hp

theorem htp_treat_response_line_as_body_eq (d : Bytes) (h1 : d.length < 9223372036854775808) (fuel : Nat) (hf : d.length < fuel) :
    (htp_treat_response_line_as_body fuel d d.length).map (·.1) = some (b2i (Parse.treatResponseLineAsBody d)) := by
  unfold htp_treat_response_line_as_body
  rw [run_val]
  rw [treatResponseLineAsBody_eq]
  exact asbody_loop fuel d h1 fuel 0 (Nat.zero_le _) hf

end Htp.CFuns

#print axioms Htp.CFuns.htp_treat_response_line_as_body_eq
