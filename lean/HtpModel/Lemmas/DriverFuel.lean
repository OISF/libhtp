/- C08 "work is linear", the request driver: how many passes the `for (;;)` of htp_connp_req_data makes in one call.

   A potential `Phi c = 8 * (unread bytes) + rank(state, bytes available?, line pending?)` strictly decreases in every pass whose state
   function answers HTP_OK (`reqStateFn_progress`). What HTP_OK says of each state function - the parser moved forward in a fixed order of
   the states, or a byte was read, or a pending line was dropped - is in Lemmas/Answer.lean (`says_req*`, one lemma per state function);
   that no state function takes the read offset back is the general walk at `dirInv_mv` (`mv_reqStateFn`). Hence the loop makes at most
   `Phi c` passes that go on, at most `8 * len + 8` for a whole call, and the fuel `8 * len + 64` of `reqDataCore` is never exhausted,
   for every callback policy.
   The REQ_IDLE step needs that REQ_IDLE returns the answer of htp_tx_state_request_start (finding S45; fix: commit 8eaf6bf of /repo): a
   REQ_IDLE that answers HTP_OK when a REQUEST_START callback has answered HTP_STOP / HTP_ERROR stays in REQ_IDLE and creates one
   transaction per pass without reading a byte; `idle_spin_witness` runs that history. -/
import HtpModel.Lemmas.Answer
import HtpModel.Lemmas.Owed
import HtpModel.Lemmas.History
namespace Htp.Conn
open Htp Htp.Gen

/-- rank of a request state, given whether unread bytes are available (`a`) and whether a line is pending (`p`): every pass that answers
    HTP_OK without reading a byte moves to a state of smaller rank (the availability flag does not change then) -/
def rank (s : ReqState) (a p : Bool) : Nat :=
  match s with
  | .line => if a then 0 else 7 + p.toNat
  | .idle => a.toNat
  | .finalize => 1 + a.toNat + p.toNat
  | .connectProbeData => 1 + a.toNat
  | .connectWaitResponse => 3 + a.toNat
  | .bodyDetermine => 3 + a.toNat
  | .connectCheck => 4 + a.toNat
  | .headers => 5 + a.toNat
  | .protocol => 6 + a.toNat
  | _ => 0

def rk (c : Conn) : Nat := rank c.inState (decide (c.inn.read < c.inn.len)) (pend c.inn)

def Phi (c : Conn) : Nat := 8 * (c.inn.len - c.inn.read).toNat + rk c

theorem rank_le8 (s : ReqState) (a p : Bool) : rank s a p ≤ 8 := by
  cases s <;> cases a <;> cases p <;> decide

/-- 8 is the rank of (REQ_LINE, nothing available, a line pending) only -/
theorem rank_le7 (s : ReqState) (a p : Bool) : s ≠ .line ∨ a = true ∨ p = false → rank s a p ≤ 7 := by
  cases s <;> cases a <;> cases p <;> decide

theorem rk_le8 (c : Conn) : rk c ≤ 8 := rank_le8 ..

theorem rk_le7 (c : Conn) (h : c.inState ≠ .line ∨ pend c.inn = false) : rk c ≤ 7 :=
  rank_le7 _ _ _ (h.imp_right .inr)

theorem phi_adv {c c' : Conn} (hl : c'.inn.len = c.inn.len) (hr : c.inn.read < c'.inn.read) (hrl : c'.inn.read ≤ c'.inn.len)
    (hk : rk c' ≤ 7) : Phi c' < Phi c := by
  unfold Phi
  rw [hl] at hrl ⊢
  omega

theorem phi_same {c c' : Conn} (hl : c'.inn.len = c.inn.len) (hr : c'.inn.read = c.inn.read) (hk : rk c' < rk c) : Phi c' < Phi c := by
  unfold Phi
  rw [hl, hr]
  omega

theorem phi_le (c : Conn) (h0 : 0 ≤ c.inn.read) : Phi c ≤ 8 * c.inn.len.toNat + 8 := by
  unfold Phi
  have := rk_le8 c
  omega

def RL (d d' : Dir) : Prop := d'.len = d.len ∧ d'.read = d.read

theorem consolidate_rl (d d2 : Dir) (hard : Nat) (s : Bool) (data : Bytes) (h : d.consolidate hard s = some (d2, data)) : RL d d2 :=
  ⟨(Dir.consolidate_read_len h).2, (Dir.consolidate_read_len h).1⟩

theorem phi_eq_of_keep {c c' : Conn} (ks : c'.inState = c.inState) (k : KeepIn c c') (kb : KeepBuf c c') : Phi c' = Phi c := by
  unfold Phi rk pend
  rw [ks, kb, k.1, k.2.1, k.2.2.1]

/-- **what every request state function does to the cursors, whatever it answers** (its first half is `wfIn_reqStateFn`,
    Lemmas/CursorInv.lean, with `OwedPos` for the two implications of `OwedOK`) -/
theorem mv_reqStateFn (cfg : Cfg) (c : Conn) (w : WFCur c.inn) (ho : OwedPos c) :
    WFCur (reqStateFn cfg c).1.inn ∧ Mv c.inn (reqStateFn cfg c).1.inn :=
  (walk_reqStateFn cfg (reqRelS_inv (dirInv_mv _ c.inn)) c (fun _ => (owedOK_of_pos ho).1) (fun _ => (owedOK_of_pos ho).2)) ⟨w, .refl _⟩

/-- REQ_IDLE moves no cursor (`KeepI` is not kept by the cursor moves, so this is no instance of `walk_reqStateFn`) -/
theorem keepI_reqIdle (cfg : Cfg) (c : Conn) : KeepI c (reqIdle cfg c).1 :=
  walk_reqIdle ((reqTx_fn (· = .line)).mono ReqTx.keepI KeepI.trans) (keepI_txCreate cfg) c rfl

/-- with the cursors where they were the availability flag is the same, so the two ranks are compared at one flag -/
theorem rk_lt_a {c c' : Conn} (hl : c'.inn.len = c.inn.len) (hr : c'.inn.read = c.inn.read)
    (h : rank c'.inState (decide (c.inn.read < c.inn.len)) (pend c'.inn) < rank c.inState (decide (c.inn.read < c.inn.len)) (pend c.inn)) :
    rk c' < rk c := by
  unfold rk
  rw [hl, hr]
  exact h

/-- **what every pass that answers HTP_OK has done**: the read cursor did not go back; where it moved the new rank is at most 7, where
    it stayed the rank went down. What HTP_OK says of the single state functions (`says_req*`, Lemmas/Answer.lean) says which of the two
    it was and why; the potential is compared once, against this shape. -/
structure Prog (c c' : Conn) : Prop where
  mv : Mv c.inn c'.inn
  low : c'.inn.read ≠ c.inn.read → rk c' ≤ 7
  down : c'.inn.read = c.inn.read → rk c' < rk c

theorem Prog.phi {c c' : Conn} (h : Prog c c') (w' : WFCur c'.inn) : Phi c' < Phi c := by
  have hm := h.mv.read
  by_cases he : c'.inn.read = c.inn.read
  · exact phi_same h.mv.len he (h.down he)
  · exact phi_adv h.mv.len (by omega) w'.rl (h.low he)

theorem Prog.adv {c c' : Conn} {s' : ReqState} (a : Adv c.inn c'.inn) (hs' : c'.inState = s') (hne : s' ≠ .line := by decide) :
    Prog c c' :=
  ⟨⟨a.1, Int.le_of_lt a.2⟩, fun _ => rk_le7 c' (.inl (hs' ▸ hne)), fun e => absurd e (by have := a.2; omega)⟩

/-- `s'` is forward of `s`: a pass from `s` to `s'` lowers the rank whatever is available or pending -/
def Fwd (s s' : ReqState) : Prop := s' ≠ .line ∧ ∀ a p p', rank s' a p' < rank s a p

instance (s s' : ReqState) : Decidable (Fwd s s') := inferInstanceAs (Decidable (_ ∧ _))

theorem Prog.to {c c' : Conn} {s s' : ReqState} (m : Mv c.inn c'.inn) (hs : c.inState = s) (hs' : c'.inState = s')
    (h : Fwd s s' := by decide) : Prog c c' := by
  refine ⟨m, fun _ => rk_le7 c' (.inl (hs' ▸ h.1)), fun e => rk_lt_a m.len e ?_⟩
  rw [hs, hs']
  exact h.2 _ _ _

theorem reqStateFn_progress (cfg : Cfg) (c : Conn) (w : WFCur c.inn) (ho : OwedPos c)
    (hok : (reqStateFn cfg c).2 = Rc.ok) (hnt : (reqStateFn cfg c).1.inn.status ≠ STREAM_TUNNEL) :
    Phi (reqStateFn cfg c).1 < Phi c := by
  obtain ⟨w', m⟩ := mv_reqStateFn cfg c w ho
  refine Prog.phi ?_ w'
  revert hok hnt m
  unfold reqStateFn
  cases hs : c.inState with
  | idle =>
    intro hok _ _
    obtain ⟨hlt, h1⟩ := (says_reqIdle cfg c).1 hok
    have k := (keepI_reqIdle cfg c).keepIn
    refine ⟨⟨k.2.1, Int.le_of_eq k.1.symm⟩, fun ne => absurd k.1 ne, fun _ => rk_lt_a k.2.1 k.1 ?_⟩
    rw [h1, hs, decide_eq_true hlt]
    exact (by decide : ∀ p p', rank ReqState.line true p' < rank ReqState.idle true p) _ _
  | line =>
    intro hok _ m
    obtain ⟨h2, h3⟩ := (says_reqLineLoop cfg _ c w).1 hok
    -- no line is pending: rank at most 7; where no byte was read the rank was 8
    refine ⟨m, fun _ => rk_le7 _ (.inr h2), fun e => Nat.lt_of_le_of_lt (rk_le7 _ (.inr h2)) ?_⟩
    obtain ⟨hp, hle⟩ := h3 e
    unfold rk
    rw [hs, hp, decide_eq_false (by omega)]
    decide
  | protocol => exact fun hok _ m => ((says_reqProtocol c).1 hok).elim (.to m hs ·) (.to m hs ·)
  | headers => exact fun hok _ m => ((says_reqHeadersLoop cfg _ c).1 hok).elim (.to m hs ·) (.to m hs ·)
  | connectCheck => exact fun hok _ m => .to m hs ((says_reqConnectCheck c).1 hok)
  | connectWaitResponse => exact fun hok _ m => ((says_reqConnectWaitResponse c).1 hok).elim (.to m hs ·) (.to m hs ·)
  | connectProbeData =>
    intro hok hnt m
    rcases (says_reqConnectProbeLoop cfg _ c).1 hok with h | h | h
    · exact absurd h hnt
    · exact .to m hs h
    · exact .to m hs h
  | bodyDetermine =>
    intro hok _ m
    rcases (says_reqBodyDetermine c).1 hok with h | h | h <;> exact .to m hs h
  | bodyIdentity => exact fun hok _ _ => have ⟨a, h⟩ := (says_reqBodyIdentity cfg c (ho.1 hs)).1 hok w.rl; .adv a h
  | bodyChunkedLength =>
    intro hok _ _
    obtain ⟨a, h | h⟩ := (says_reqChunkedLengthLoop cfg _ c).1 hok <;> exact .adv a h
  | bodyChunkedData => exact fun hok _ _ => have ⟨a, h⟩ := (says_reqBodyChunkedData cfg c (ho.2 hs)).1 hok w.rl; .adv a h
  | bodyChunkedDataEnd => exact fun hok _ _ => have ⟨a, h⟩ := (says_reqChunkedDataEndLoop _ c).1 hok; .adv a h
  | finalize =>
    intro hok _ m
    rcases (says_reqFinalize cfg c).1 hok with h1 | h1 | ⟨h1, h2, h3⟩
    · exact .to m hs h1
    · exact .to m hs h1
    · refine ⟨m, fun _ => rk_le7 _ (.inr h2), fun e => rk_lt_a m.len e ?_⟩
      rw [h1, hs, h2, h3 e]
      cases decide (c.inn.read < c.inn.len) <;> decide
  | ignoreDataAfter09 => exact fun hok _ _ => ((says_reqIgnore c).1 hok).elim

theorem phi_reqHandleStateChange (c : Conn) : Phi (reqHandleStateChange c).1 = Phi c :=
  phi_eq_of_keep (reqTx_reqHandleStateChange c).inState (reqTx_reqHandleStateChange c).keepIn (reqTx_reqHandleStateChange c).keepBuf

/-- the state the next pass of the `for (;;)` starts from - `none` when this pass ends the call (the state function or the state-change
    hook answered something else than HTP_OK, or the stream became a tunnel) -/
def reqNext (cfg : Cfg) (c : Conn) : Option Conn :=
  if (reqStateFn cfg c).2 = Rc.ok ∧ ((reqStateFn cfg c).1.inn.status == STREAM_TUNNEL) = false then
    if (reqHandleStateChange (reqStateFn cfg c).1).2 = Rc.ok ∧
        ((reqHandleStateChange (reqStateFn cfg c).1).1.inn.status == STREAM_TUNNEL) = false then
      some (reqHandleStateChange (reqStateFn cfg c).1).1
    else none
  else none

theorem reqNext_eq (cfg : Cfg) (c : Conn) :
    reqNext cfg c =
      if (reqPass cfg c).2 = .ok ∧ ((reqPass cfg c).1.inn.status == STREAM_TUNNEL) = false then
        some (reqPass cfg c).1
      else none := by
  unfold reqNext reqPass reqPassHook
  generalize reqStateFn cfg c = r
  by_cases h1 : r.2 = .ok
  · by_cases t1 : (r.1.inn.status == STREAM_TUNNEL) = true
    · simp [h1, t1]
    · simp [h1, t1]
  · simp [h1]

theorem reqDriverLoop_next (cfg : Cfg) (n : Nat) (c c2 : Conn) (h : reqNext cfg c = some c2) :
    reqDriverLoop cfg false (n + 1) c = reqDriverLoop cfg false n c2 := by
  rw [reqNext_eq] at h
  rw [reqDriverLoop_data_succ]
  split at h
  · rename_i hh
    cases h
    rw [if_pos (beq_iff_eq.mpr hh.1), if_neg (Bool.eq_false_iff.mp hh.2)]
  · cases h

theorem reqDriverLoop_last (cfg : Cfg) (a b : Nat) (c : Conn) (h : reqNext cfg c = none) :
    reqDriverLoop cfg false (a + 1) c = reqDriverLoop cfg false (b + 1) c := by
  rw [reqNext_eq] at h
  rw [reqDriverLoop_data_succ, reqDriverLoop_data_succ]
  split
  · split
    · rfl
    · rename_i h1 h2
      rw [if_pos ⟨eq_of_beq h1, Bool.eq_false_iff.mpr h2⟩] at h
      cases h
  · rfl

/-- the loop has used up its fuel: `n` passes in a row went on -/
def OutOfFuel (cfg : Cfg) : Nat → Conn → Prop
  | 0, _ => True
  | n + 1, c => ∃ c2, reqNext cfg c = some c2 ∧ OutOfFuel cfg n c2

theorem outOfFuel_marker (cfg : Cfg) (n : Nat) (c : Conn) (h : OutOfFuel cfg n c) :
    (reqDriverLoop cfg false n c).1.unsupported = true ∧ (reqDriverLoop cfg false n c).2 = STREAM_ERROR := by
  induction n generalizing c with
  | zero => unfold reqDriverLoop; exact ⟨rfl, rfl⟩
  | succ k ih =>
    obtain ⟨c2, h1, h2⟩ := h
    rw [reqDriverLoop_next cfg k c c2 h1]
    exact ih c2 h2

theorem reqDriverLoop_more_fuel (cfg : Cfg) (n : Nat) (c : Conn) (h : ¬ OutOfFuel cfg n c) (k : Nat) :
    reqDriverLoop cfg false (n + k) c = reqDriverLoop cfg false n c := by
  induction n generalizing c with
  | zero => exact absurd trivial h
  | succ m ih =>
    rw [Nat.add_right_comm]
    cases hn : reqNext cfg c with
    | none => exact reqDriverLoop_last cfg _ _ c hn
    | some c2 =>
      rw [reqDriverLoop_next cfg _ c c2 hn, reqDriverLoop_next cfg _ c c2 hn]
      exact ih c2 (fun h2 => h ⟨c2, hn, h2⟩)

theorem reqNext_progress (cfg : Cfg) (c0 c c2 : Conn) (hr : CallReach cfg c0 c) (w : WFCur c.inn) (ho : OwedPos c)
    (hcl : ClAtDecision cfg c0) (h : reqNext cfg c = some c2) :
    CallReach cfg c0 c2 ∧ WFCur c2.inn ∧ OwedPos c2 ∧ Phi c2 < Phi c := by
  unfold reqNext at h
  split at h
  · rename_i h1
    split at h
    · rename_i h2
      simp only [Option.some.injEq] at h
      subst h
      have hnt : (reqStateFn cfg c).1.inn.status ≠ STREAM_TUNNEL := by
        intro e
        have := h1.2
        rw [e] at this
        exact absurd this (by decide)
      have w1 := wfIn_reqStateFn cfg c w (owedOK_of_pos ho).1 (owedOK_of_pos ho).2
      have o1 := owedPos_reqStateFn cfg c ho (hcl c hr)
      have f2 := phi_reqHandleStateChange (reqStateFn cfg c).1
      refine ⟨CallReach.step c hr h1.1 h1.2 h2.1, wfIn_reqHandleStateChange _ w1, owedPos_reqHandleStateChange _ o1, ?_⟩
      have hlt := reqStateFn_progress cfg c w ho h1.1 hnt
      omega
    · simp at h
  · simp at h

/-- **the request driver loop makes at most `Phi c` passes that go on**, from any state a call passes through -/
theorem reqDriverLoop_not_outOfFuel (cfg : Cfg) (n : Nat) (c0 c : Conn) (hr : CallReach cfg c0 c) (w : WFCur c.inn) (ho : OwedPos c)
    (hcl : ClAtDecision cfg c0) (hf : Phi c < n) : ¬ OutOfFuel cfg n c := by
  induction n generalizing c with
  | zero => omega
  | succ m ih =>
    intro ⟨c2, h1, h2⟩
    obtain ⟨hr2, w2, o2, hlt⟩ := reqNext_progress cfg c0 c c2 hr w ho hcl h1
    exact ih c2 hr2 w2 o2 (by omega) h2

theorem reqDriverLoop_fuel_enough (cfg : Cfg) (n : Nat) (c0 c : Conn) (hr : CallReach cfg c0 c) (w : WFCur c.inn) (ho : OwedPos c)
    (hcl : ClAtDecision cfg c0) (hf : Phi c < n) (k : Nat) :
    reqDriverLoop cfg false (n + k) c = reqDriverLoop cfg false n c :=
  reqDriverLoop_more_fuel cfg n c (reqDriverLoop_not_outOfFuel cfg n c0 c hr w ho hcl hf) k

theorem phi_start (d : Bytes) (c : Conn) : Phi (reqWakeOther (reqStoreChunk (some d) d.length c)) ≤ 8 * d.length + 8 := by
  have h : Phi (reqStoreChunk (some d) d.length c) ≤ 8 * d.length + 8 := by
    have := phi_le (reqStoreChunk (some d) d.length c) (by unfold reqStoreChunk; exact Int.le_refl _)
    have e : (reqStoreChunk (some d) d.length c).inn.len.toNat = d.length := by unfold reqStoreChunk; simp
    rw [e] at this
    exact this
  rw [reqWakeOther_eq]
  exact h

theorem wf_start (d : Bytes) (c : Conn) (hs : (d.length : Int) < 18446744073709551616) :
    WFCur (reqWakeOther (reqStoreChunk (some d) d.length c)).inn := by
  rw [reqWakeOther_inn]
  exact wf_reqStoreChunk d c hs

/-- **C08, the request driver is linear**: started by htp_connp_req_data on a chunk of `len` bytes - from any state with `OwedPos`
    and `ClOK` (counted body states owing bytes, identity bodies with a non-negative Content-Length), for every
    callback policy - the `for (;;)` makes at most `8 * len + 8` passes that go on -/
theorem reqData_passes_linear (cfg : Cfg) (d : Bytes) (c : Conn) (hs : (d.length : Int) < 18446744073709551616)
    (h0 : OwedPos c) (hcl : ClOK c) (n : Nat) (hn : 8 * d.length + 8 < n) :
    ¬ OutOfFuel cfg n (reqWakeOther (reqStoreChunk (some d) d.length c)) := by
  apply reqDriverLoop_not_outOfFuel cfg n _ _ CallReach.start (wf_start d c hs) (owedPos_reqStoreChunk d c h0)
    (clAtDecision_store cfg _ _ c hcl)
  have := phi_start d c
  omega

/-- **the fuel `8 * len + 64` of the model's request driver is never exhausted** -/
theorem reqData_not_outOfFuel (cfg : Cfg) (d : Bytes) (c : Conn) (hs : (d.length : Int) < 18446744073709551616)
    (h0 : OwedPos c) (hcl : ClOK c) :
    ¬ OutOfFuel cfg (8 * d.length + 64) (reqWakeOther (reqStoreChunk (some d) d.length c)) :=
  reqData_passes_linear cfg d c hs h0 hcl _ (by omega)

theorem reqData_fuel_enough (cfg : Cfg) (d : Bytes) (c : Conn) (hs : (d.length : Int) < 18446744073709551616)
    (h0 : OwedPos c) (hcl : ClOK c) (k : Nat) :
    reqDriverLoop cfg false (8 * d.length + 64 + k) (reqWakeOther (reqStoreChunk (some d) d.length c)) =
    reqDriverLoop cfg false (8 * d.length + 64) (reqWakeOther (reqStoreChunk (some d) d.length c)) :=
  reqDriverLoop_more_fuel cfg _ _ (reqData_not_outOfFuel cfg d c hs h0 hcl) k

/-- **REQ_IDLE does not spin** (finding S45): a fresh parser, htp_connp_open, one request chunk of ONE byte, and a REQUEST_START callback
    that answers HTP_ERROR 72 times. The first refusal ends the call: STREAM_ERROR after ONE transaction and ONE callback, and the model
    did not give up. (With a REQ_IDLE that ignores the answer of htp_tx_state_request_start - libhtp before the fix - the loop stays in
    REQ_IDLE, creates 72 transactions without reading the byte and uses up the model's fuel.) -/
theorem idle_spin_witness :
    let c0 : Conn := { policy := (List.range 72).map (fun i => (i, CbAction.error)) }
    let c := runCalls {} c0 [.open]
    (reqData {} (some [65]) 1 c).2 = STREAM_ERROR ∧ (reqData {} (some [65]) 1 c).1.unsupported = false ∧
    (reqData {} (some [65]) 1 c).1.txs.length = 1 ∧ (reqData {} (some [65]) 1 c).1.cbCount = 1 ∧
    (reqData {} (some [65]) 1 c).1.inState = .idle ∧ HistInv {} c := by
  intro c0 c
  refine ⟨by decide +kernel, by decide +kernel, by decide +kernel, by decide +kernel, by decide +kernel, ?_⟩
  exact histInv_open {} c0 (histInv_fresh_policy {} _)

/-- the same with HTP_STOP: STREAM_STOP after one transaction -/
example :
    let c : Conn := runCalls {} { policy := [(0, .stop)] } [.open]
    (reqData {} (some [65]) 1 c).2 = STREAM_STOP ∧ (reqData {} (some [65]) 1 c).1.txs.length = 1 ∧
    (reqData {} (some [65]) 1 c).1.unsupported = false := by
  decide

end Htp.Conn
