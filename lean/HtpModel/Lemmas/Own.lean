/- C18, the list scenario for every capacity and number of pushes: the list owns exactly its two blocks from creation to destruction. -/
import HtpModel.Own
namespace Htp.Own

structure Blocks (h' : H) (next : Nat) (live : List Nat) (bad : Bool) : Prop where
  next : h'.next = next
  live : h'.live = live
  bad : h'.bad = bad

theorem tick_blocks (h : H) : Blocks h.tick.1 h.next h.live h.bad := by
  unfold H.tick
  split <;> exact ⟨rfl, rfl, rfl⟩

theorem alloc_spec (h : H) :
    match h.alloc with
    | (h', none) => Blocks h' h.next h.live h.bad
    | (h', some i) => i = h.next ∧ Blocks h' (h.next + 1) (h.next :: h.live) h.bad := by
  have t := tick_blocks h
  unfold H.alloc
  cases ht : h.tick with
  | mk h1 f =>
    rw [ht] at t
    rw [← t.next, ← t.live, ← t.bad]
    cases f
    · exact ⟨rfl, rfl, rfl, rfl⟩
    · exact ⟨rfl, rfl, rfl⟩

theorem realloc_spec (h : H) (o : Nat) :
    match h.realloc o with
    | (h', none) => Blocks h' h.next h.live h.bad
    | (h', some i) => i = h.next ∧ Blocks h' (h.next + 1) (h.next :: h.live.erase o) (h.bad || !h.live.contains o) := by
  have t := tick_blocks h
  unfold H.realloc
  cases ht : h.tick with
  | mk h1 f =>
    rw [ht] at t
    rw [← t.next, ← t.live, ← t.bad]
    cases f
    · exact ⟨rfl, rfl, rfl, rfl⟩
    · exact ⟨rfl, rfl, rfl⟩
/-- the list owns exactly the two live blocks -/
structure ListInv (h : H) (l : L) : Prop where
  live : h.live = [l.elems, l.struct]
  lt1 : l.struct < l.elems
  lt2 : l.elems < h.next
  ok : h.bad = false

theorem listCreate_spec (cap : Nat) (h : H) (hl : h.live = []) (hb : h.bad = false) :
    match listCreate cap h with
    | (h', some l) => ListInv h' l
    | (h', none) => h'.live = [] ∧ h'.bad = false := by
  unfold listCreate
  have a1 := alloc_spec h
  cases e1 : h.alloc with
  | mk h1 o1 =>
    rw [e1] at a1
    cases o1 with
    | none => exact ⟨by rw [a1.live, hl], by rw [a1.bad, hb]⟩
    | some s =>
      obtain ⟨rfl, a1⟩ := a1
      have a2 := alloc_spec h1
      dsimp only
      cases e2 : h1.alloc with
      | mk h2 o2 =>
        rw [e2] at a2
        cases o2 with
        | none => simp [H.free, a2.live, a1.live, hl, a2.bad, a1.bad, hb]
        | some el =>
          obtain ⟨rfl, a2⟩ := a2
          exact ⟨by simp [a2.live, a1.live, a1.next, hl], by simp [a1.next], by simp [a2.next], by rw [a2.bad, a1.bad, hb]⟩

theorem listPush_inv (l : L) (h : H) (hi : ListInv h l) : ListInv (listPush l h).1 (listPush l h).2.1 := by
  unfold listPush
  split
  · have r := realloc_spec h l.elems
    cases e : h.realloc l.elems with
    | mk h1 o =>
      rw [e] at r
      cases o with
      | none => exact ⟨by rw [r.live, hi.live], hi.lt1, by rw [r.next]; exact hi.lt2, by rw [r.bad, hi.ok]⟩
      | some el =>
        obtain ⟨rfl, r⟩ := r
        have := hi.lt1
        have := hi.lt2
        exact ⟨by simp [r.live, hi.live], by show l.struct < h.next; omega, by rw [r.next]; show h.next < h.next + 1; omega,
          by simp [r.bad, hi.ok, hi.live]⟩
  · exact ⟨hi.live, hi.lt1, hi.lt2, hi.ok⟩

theorem listPushes_inv (n : Nat) (l : L) (h : H) (ok : Nat) (hi : ListInv h l) :
    ListInv (listPushes n l h ok).1 (listPushes n l h ok).2.1 := by
  induction n generalizing l h ok with
  | zero => exact hi
  | succ k ih => exact ih _ _ _ (listPush_inv l h hi)

theorem listDestroy_clean (l : L) (h : H) (hi : ListInv h l) : (listDestroy l h).live = [] ∧ (listDestroy l h).bad = false := by
  have hne : l.elems ≠ l.struct := by have := hi.lt1; omega
  unfold listDestroy H.free
  simp [hi.live, hi.ok, hne]

end Htp.Own
