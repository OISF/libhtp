/- C01 (reference validity of the transaction slots): the invariant and the steps that keep it.

   `RefsValid c`: whenever the parser's `in_tx` / `out_tx` names a transaction (by uid), that transaction is still in the connection's
   list - it has not been destroyed. `RefsInv c` adds the uid hygiene that makes the statement mean what it says: the uids in the list
   are pairwise distinct and all below `c.nextUid` (so the fresh uid of `txCreate` names the new transaction and no other, and
   `findTx u` is THE transaction with uid `u`).
   `KeepRef c c'` - the step keeps `RefsInv`: `setTx` / `modTx` keep the uid of every slot (checked for every update function used in the
   model), `destroyTx u` empties the slots of `u` AND clears both references to `u`, `txCreate` appends a slot with the fresh uid and
   points `in_tx` at it, htp_connp_tx_freed drops empty slots, and the cursor functions of a direction record never write its `tx`
   field (`Dir.Step.frame`, Lemmas/Cursor.lean). That every function of the model is made of such steps is the `ref`
   coordinate of the walk in Lemmas/ConnSweep.lean; whole histories are in Lemmas/RefsValidHist.lean. -/
import HtpModel.Lemmas.TxList
namespace Htp.Conn
open Htp Htp.Gen

def Live (c : Conn) (u : Nat) : Prop := ∃ t, some t ∈ c.txs ∧ t.uid = u

/-- **reference validity**: `in_tx` / `out_tx` name a transaction that is in the list, or nothing -/
def RefsValid (c : Conn) : Prop :=
  (∀ u, c.inn.tx = some u → (c.findTx u).isSome) ∧ (∀ u, c.out.tx = some u → (c.findTx u).isSome)

/-- every uid in the list was handed out by `txCreate` -/
def UidsFresh (c : Conn) : Prop := ∀ t, some t ∈ c.txs → t.uid < c.nextUid

def UidsDistinct (c : Conn) : Prop :=
  c.txs.Pairwise (fun a b => ∀ x y, a = some x → b = some y → x.uid ≠ y.uid)

def RefsInv (c : Conn) : Prop := RefsValid c ∧ UidsFresh c ∧ UidsDistinct c

theorem findTx_isSome_iff (c : Conn) (u : Nat) : (c.findTx u).isSome = true ↔ Live c u := by
  cases hf : c.findTx u with
  | none => exact ⟨fun h => (nomatch h), fun ⟨t, hm, hu⟩ => absurd hu (findTx_none hf t hm)⟩
  | some t => exact ⟨fun _ => ⟨t, findTx_mem hf⟩, fun _ => rfl⟩

theorem refsValid_iff (c : Conn) :
    RefsValid c ↔ (∀ u, c.inn.tx = some u → Live c u) ∧ (∀ u, c.out.tx = some u → Live c u) := by
  unfold RefsValid
  constructor
  · intro ⟨a, b⟩
    exact ⟨fun u h => (findTx_isSome_iff c u).1 (a u h), fun u h => (findTx_isSome_iff c u).1 (b u h)⟩
  · intro ⟨a, b⟩
    exact ⟨fun u h => (findTx_isSome_iff c u).2 (a u h), fun u h => (findTx_isSome_iff c u).2 (b u h)⟩

theorem findTx_eq_some_iff {c : Conn} (hd : UidsDistinct c) (u : Nat) (t : Tx) :
    c.findTx u = some t ↔ some t ∈ c.txs ∧ t.uid = u := by
  refine ⟨findTx_mem, fun ⟨hm, hu⟩ => ?_⟩
  cases hf : c.findTx u with
  | none => exact absurd hu (findTx_none hf t hm)
  | some t' =>
    obtain ⟨hm', hu'⟩ := findTx_mem hf
    unfold UidsDistinct at hd
    generalize c.txs = l at hd hm hm'
    induction hd with
    | nil => simp at hm
    | cons hhead _ ih =>
      rcases List.mem_cons.1 hm with rfl | hm <;> rcases List.mem_cons.1 hm' with e | hm'
      · exact e.symm ▸ rfl
      · exact absurd (hu.trans hu'.symm) (hhead _ hm' _ _ rfl rfl)
      · exact absurd (hu'.trans hu.symm) (hhead _ hm _ _ e.symm rfl)
      · exact ih hm hm'

/-- the step from `c` to `c'` keeps `RefsInv` -/
structure KeepRef (c c' : Conn) : Prop where
  keep : RefsInv c → RefsInv c'

theorem KeepRef.refl (c : Conn) : KeepRef c c := ⟨id⟩
theorem KeepRef.trans {a b c : Conn} (h1 : KeepRef a b) (h2 : KeepRef b c) : KeepRef a c := ⟨fun h => h2.keep (h1.keep h)⟩

/-- (a fresh parser with a callback policy, `{ policy := p, allowCbDestroy := a }`, takes this lemma as it stands, and likewise
    `idxInv_fresh`, `tunnelPair_fresh`: the invariants read neither field; `by decide` does not work there - free variables) -/
theorem refsInv_init : RefsInv ({} : Conn) := by
  refine ⟨⟨fun u h => ?_, fun u h => ?_⟩, fun t h => ?_, List.Pairwise.nil⟩
  · cases h
  · cases h
  · have : some t ∈ ([] : List (Option Tx)) := h
    simp at this

/-- the invariant reads four things of a state: the list, the two references, the uid counter -/
structure SameRefs (c c' : Conn) : Prop where
  txs : c'.txs = c.txs
  inn : c'.inn.tx = c.inn.tx
  out : c'.out.tx = c.out.tx
  uid : c'.nextUid = c.nextUid

theorem keepRef_of_same {c c' : Conn} (h : SameRefs c c') : KeepRef c c' := by
  refine ⟨fun hc => ?_⟩
  unfold RefsInv RefsValid UidsFresh UidsDistinct Conn.findTx at hc ⊢
  rw [h.txs, h.inn, h.out, h.uid]
  exact hc

theorem keepRef_clearIn (c : Conn) (d : Dir) (h : d.tx = none) : KeepRef c { c with inn := d } := by
  refine ⟨fun ⟨hv, hf, hd⟩ => ⟨⟨fun u e => ?_, hv.2⟩, hf, hd⟩⟩
  have e' : d.tx = some u := e
  rw [h] at e'; cases e'

theorem keepRef_clearOut (c : Conn) (d : Dir) (h : d.tx = none) : KeepRef c { c with out := d } := by
  refine ⟨fun ⟨hv, hf, hd⟩ => ⟨⟨hv.1, fun u e => ?_⟩, hf, hd⟩⟩
  have e' : d.tx = some u := e
  rw [h] at e'; cases e'

theorem keepRef_setOut (c : Conn) (d : Dir) (u : Nat) (h : d.tx = some u) (hl : Live c u) : KeepRef c { c with out := d } := by
  refine ⟨fun ⟨hv, hf, hd⟩ => ⟨⟨hv.1, fun v e => ?_⟩, hf, hd⟩⟩
  have e' : d.tx = some v := e
  rw [h] at e'
  cases e'
  exact (findTx_isSome_iff _ _).2 hl

theorem peekSet_tx (d : Dir) : d.peekSet.1.tx = d.tx := rfl

/-- a slot map that invents no uid: what it leaves in a slot has the uid that was there -/
def SlotOK (g : Option Tx → Option Tx) : Prop := ∀ o y, g o = some y → ∃ x, o = some x ∧ x.uid = y.uid

theorem fresh_map {l : List (Option Tx)} {g : Option Tx → Option Tx} {n : Nat} (hg : SlotOK g)
    (h : ∀ t, some t ∈ l → t.uid < n) : ∀ t, some t ∈ l.map g → t.uid < n := by
  intro t ht
  obtain ⟨o, ho, he⟩ := List.mem_map.1 ht
  obtain ⟨x, hx, hu⟩ := hg o t he
  subst hx
  rw [← hu]; exact h x ho

theorem distinct_map {l : List (Option Tx)} {g : Option Tx → Option Tx} (hg : SlotOK g)
    (h : l.Pairwise (fun a b => ∀ x y, a = some x → b = some y → x.uid ≠ y.uid)) :
    (l.map g).Pairwise (fun a b => ∀ x y, a = some x → b = some y → x.uid ≠ y.uid) := by
  rw [List.pairwise_map]
  refine h.imp ?_
  intro a b hab x y hx hy
  obtain ⟨x0, hx0, hux⟩ := hg a x hx
  obtain ⟨y0, hy0, huy⟩ := hg b y hy
  rw [← hux, ← huy]
  exact hab x0 y0 hx0 hy0

/-- a slot map that keeps every slot, with its uid -/
structure SlotKeep (g : Option Tx → Option Tx) : Prop where
  none : g none = none
  some : ∀ x, ∃ y, g (some x) = some y ∧ y.uid = x.uid

theorem SlotKeep.ok {g : Option Tx → Option Tx} (hg : SlotKeep g) : SlotOK g := by
  intro o y h
  cases o with
  | none => rw [hg.none] at h; simp at h
  | some x =>
    obtain ⟨y', hy, hu⟩ := hg.some x
    rw [hy] at h
    simp only [Option.some.injEq] at h
    subst h
    exact ⟨x, rfl, hu.symm⟩

theorem live_mapKeep {c : Conn} {g : Option Tx → Option Tx} (hg : SlotKeep g) (u : Nat) :
    Live { c with txs := c.txs.map g } u ↔ Live c u := by
  unfold Live
  constructor
  · intro ⟨t, hm, hu⟩
    obtain ⟨o, ho, he⟩ := List.mem_map.1 hm
    obtain ⟨x, hx, hux⟩ := hg.ok o t he
    subst hx
    exact ⟨x, ho, hux.trans hu⟩
  · intro ⟨x, hm, hu⟩
    obtain ⟨y, hy, hyu⟩ := hg.some x
    exact ⟨y, List.mem_map.2 ⟨some x, hm, hy⟩, hyu.trans hu⟩

theorem keepRef_mapKeep (c : Conn) {g : Option Tx → Option Tx} (hg : SlotKeep g) : KeepRef c { c with txs := c.txs.map g } := by
  refine ⟨fun ⟨hv, hf, hd⟩ => ⟨?_, fresh_map hg.ok hf, distinct_map hg.ok hd⟩⟩
  rw [refsValid_iff] at hv ⊢
  exact ⟨fun u h => (live_mapKeep hg u).2 (hv.1 u h), fun u h => (live_mapKeep hg u).2 (hv.2 u h)⟩

theorem keepRef_setTx (t : Tx) (c : Conn) : KeepRef c (c.setTx t) := by
  unfold Conn.setTx
  apply keepRef_mapKeep
  refine ⟨rfl, fun x => ?_⟩
  by_cases h : (x.uid == t.uid) = true
  · exact ⟨t, by simp only [h, if_true], (by simpa using h : x.uid = t.uid).symm⟩
  · exact ⟨x, by simp only [h, Bool.false_eq_true, if_false], rfl⟩

/-- `modTx` with an update function that does not write the uid - which is every update function of the model -/
theorem keepRef_modTx (u : Nat) (f : Tx → Tx) (c : Conn) (hf : ∀ t, (f t).uid = t.uid := by intro _; rfl) :
    KeepRef c (c.modTx u f) := by
  unfold Conn.modTx
  apply keepRef_mapKeep
  refine ⟨rfl, fun x => ?_⟩
  by_cases h : (x.uid == u) = true
  · exact ⟨f x, by simp only [h, if_true], hf x⟩
  · exact ⟨x, by simp only [h, Bool.false_eq_true, if_false], rfl⟩

theorem live_destroyTx (u : Nat) (c : Conn) (v : Nat) : Live (destroyTx u c) v ↔ Live c v ∧ v ≠ u := by
  unfold Live destroyTx
  simp only
  constructor
  · intro ⟨t, hm, hu⟩
    obtain ⟨o, ho, he⟩ := List.mem_map.1 hm
    cases o with
    | none => simp at he
    | some x =>
      simp only at he
      split at he
      · simp at he
      · rename_i hne
        simp only [Option.some.injEq] at he
        subst he
        exact ⟨⟨x, ho, hu⟩, by rw [← hu]; simpa using hne⟩
  · intro ⟨⟨x, hm, hu⟩, hne⟩
    refine ⟨x, List.mem_map.2 ⟨some x, hm, ?_⟩, hu⟩
    have : (x.uid == u) = false := by rw [hu]; simpa using hne
    simp only [this, Bool.false_eq_true, if_false]

/-- **htp_tx_destroy keeps the invariant**: the slots of `u` are emptied and both references to `u` are cleared -/
theorem keepRef_destroyTx (u : Nat) (c : Conn) : KeepRef c (destroyTx u c) := by
  have hg : SlotOK (fun o => match o with | some x => if x.uid == u then none else some x | none => none) := by
    intro o y h
    cases o with
    | none => simp at h
    | some x =>
      simp only at h
      split at h
      · simp at h
      · simp only [Option.some.injEq] at h; subst h; exact ⟨x, rfl, rfl⟩
  refine ⟨fun ⟨hv, hf, hd⟩ => ⟨?_, ?_, ?_⟩⟩
  · rw [refsValid_iff] at hv ⊢
    refine ⟨fun v h => ?_, fun v h => ?_⟩
    · rw [live_destroyTx]
      have h' : (if c.inn.tx == some u then { c.inn with tx := none } else c.inn).tx = some v := h
      split at h'
      · simp at h'
      · rename_i hne
        exact ⟨hv.1 v h', fun e => hne (by rw [h', e]; simp)⟩
    · rw [live_destroyTx]
      have h' : (if c.out.tx == some u then { c.out with tx := none } else c.out).tx = some v := h
      split at h'
      · simp at h'
      · rename_i hne
        exact ⟨hv.2 v h', fun e => hne (by rw [h', e]; simp)⟩
  · exact fresh_map hg hf
  · exact distinct_map hg hd

theorem txCreate_some {cfg : Cfg} {c c1 : Conn} {uid : Nat} (h : txCreate cfg c = (c1, some uid)) :
    c1.inn.tx = some uid ∧ uid = c.nextUid ∧ c1.txs.length = c.txs.length + 1 := by
  unfold txCreate at h
  simp only at h
  split at h
  · simp at h
  · simp only [Prod.mk.injEq, Option.some.injEq] at h
    rw [← h.1, ← h.2]; exact ⟨rfl, rfl, List.length_append⟩

/-- **transaction creation keeps the invariant**: the new slot has the fresh uid `nextUid`, which no stored transaction has, and `in_tx`
    is pointed at it; when creation is refused (max_tx) nothing is written -/
theorem keepRef_txCreate (cfg : Cfg) (c : Conn) : KeepRef c (txCreate cfg c).1 := by
  unfold txCreate
  simp only []
  split
  · exact ⟨id⟩
  · refine ⟨fun ⟨hv, hf, hd⟩ => ⟨?_, ?_, ?_⟩⟩
    · rw [refsValid_iff] at hv ⊢
      refine ⟨fun v h => ?_, fun v h => ?_⟩
      · have h' : some c.nextUid = some v := h
        refine ⟨{ uid := c.nextUid, index := c.txs.length, portNumber := 0 }, ?_, Option.some.inj h'⟩
        show _ ∈ c.txs ++ [_]
        simp
      · obtain ⟨t, hm, hu⟩ := hv.2 v h
        refine ⟨t, ?_, hu⟩
        show _ ∈ c.txs ++ [_]
        exact List.mem_append_left _ hm
    · intro t ht
      have ht' : some t ∈ c.txs ++ [some ({ uid := c.nextUid, index := c.txs.length, portNumber := 0 } : Tx)] := ht
      show t.uid < c.nextUid + 1
      simp only [List.mem_append, List.mem_singleton, Option.some.injEq] at ht'
      rcases ht' with h | h
      · exact Nat.lt_succ_of_lt (hf t h)
      · rw [h]; exact Nat.lt_succ_self _
    · show (c.txs ++ [some ({ uid := c.nextUid, index := c.txs.length, portNumber := 0 } : Tx)]).Pairwise _
      rw [List.pairwise_append]
      refine ⟨hd, List.pairwise_singleton _ _, ?_⟩
      intro a ha b hb x y hx hy
      simp only [List.mem_singleton] at hb
      subst hx
      rw [hb] at hy
      simp only [Option.some.injEq] at hy
      rw [← hy]
      exact Nat.ne_of_lt (hf x ha)

theorem live_of_inn {c : Conn} {u : Nat} (h : RefsInv c) (e : c.inn.tx = some u) : Live c u := ((refsValid_iff c).1 h.1).1 u e

/-- the transaction in slot `out_next_tx_index` is in the list -/
theorem slot_mem {l : List (Option Tx)} {i : Int} {t : Tx} (h : (if i < 0 then none else (l[i.toNat]?).join) = some t) : some t ∈ l := by
  split at h
  · simp at h
  · cases hq : l[i.toNat]? with
    | none => rw [hq] at h; simp at h
    | some o =>
      rw [hq] at h
      simp only [Option.join_some] at h
      subst h
      exact List.mem_of_getElem? hq

/-- dropping a leading EMPTY slot keeps the invariant: no transaction leaves the list -/
theorem keepRef_dropNone (c : Conn) (rest : List (Option Tx)) (i : Int) (heq : c.txs = none :: rest) :
    KeepRef c { c with txs := rest, outNextTxIndex := i } := by
  have hm : ∀ t : Tx, some t ∈ rest ↔ some t ∈ c.txs := by
    intro t; rw [heq]; simp
  refine ⟨fun ⟨hv, hf, hd⟩ => ⟨?_, ?_, ?_⟩⟩
  · rw [refsValid_iff] at hv ⊢
    refine ⟨fun u e => ?_, fun u e => ?_⟩
    · obtain ⟨t, ht, hu⟩ := hv.1 u e
      exact ⟨t, (hm t).2 ht, hu⟩
    · obtain ⟨t, ht, hu⟩ := hv.2 u e
      exact ⟨t, (hm t).2 ht, hu⟩
  · intro t ht
    exact hf t ((hm t).1 ht)
  · unfold UidsDistinct at hd
    rw [heq] at hd
    exact (List.pairwise_cons.1 hd).2

end Htp.Conn
