/- For Props/C14: the Content-Disposition value as a sender writes it (`esc`, `cdValue`) under the scanner and the parameter loop; `plain`
   chunks inside part data. (`parse_data_piece`, one plain piece appended to the open part, stands with its users in Props/C14.lean.) -/
import HtpModel.Multipart
import HtpModel.Lemmas.ListFacts

namespace Htp.Multipart
open Htp

def esc : Bytes → Bytes
  | [] => []
  | c :: rest => if c == DQUOTE || c == BSLASH then BSLASH :: c :: esc rest else c :: esc rest

theorem decodeQuoted_cons (c : UInt8) (l : Bytes) (hc : (c == BSLASH) = false) : decodeQuoted (c :: l) = c :: decodeQuoted l := by
  cases l <;> simp [decodeQuoted, hc]

theorem decodeQuoted_esc (n : Bytes) : decodeQuoted (esc n) = n := by
  induction n with
  | nil => rfl
  | cons c rest ih =>
    unfold esc
    by_cases h : (c == DQUOTE || c == BSLASH) = true
    · rw [if_pos h]
      unfold decodeQuoted
      simp [h, ih]
    · have hc : (c == BSLASH) = false := by
        simp only [Bool.or_eq_true, not_or, Bool.not_eq_true] at h
        exact h.2
      rw [if_neg h, decodeQuoted_cons c _ hc, ih]

theorem scanQuoted_esc (n rest acc : Bytes) :
    scanQuoted (esc n ++ DQUOTE :: rest) acc = some (acc.reverse ++ esc n, rest) := by
  induction n generalizing acc with
  | nil =>
    simp only [esc, List.nil_append, List.append_nil]
    cases rest with
    | nil => simp [scanQuoted]
    | cons r rs => simp [scanQuoted]
  | cons c t ih =>
    unfold esc
    by_cases h : (c == DQUOTE || c == BSLASH) = true
    · rw [if_pos h]
      simp only [List.cons_append]
      unfold scanQuoted
      have h1 : (BSLASH == DQUOTE) = false := by decide
      simp only [h1, h, Bool.and_true, beq_self_eq_true]
      simp [ih]
    · rw [if_neg h]
      simp only [Bool.or_eq_true, not_or, Bool.not_eq_true] at h
      obtain ⟨hq, hc⟩ := h
      simp only [List.cons_append]
      cases hr : esc t ++ DQUOTE :: rest with
      | nil => simp at hr
      | cons d u =>
        unfold scanQuoted
        simp only [hq, hc, Bool.false_and]
        rw [← hr, ih]
        simp

theorem dropWhile_space_cons (c : UInt8) (t : Bytes) (h : Gen.cIsspace c = false) : (c :: t).dropWhile Gen.cIsspace = c :: t :=
  List.dropWhile_cons_of_neg (by simp [h])

/-- one pass of the parameter loop over `; key="value"` as a sender writes it (one space, none around '=', the value escaped), for any key -/
theorem cd_step (k : Nat) (key n rest : Bytes) (p : Parser) (part : Part)
    (hk : ∀ c ∈ key, (!Gen.cIsspace c && c != EQS) = true) :
    cdLoop (k + 1) (SEMI :: 32 :: (key ++ EQS :: DQUOTE :: (esc n ++ DQUOTE :: rest))) p part =
      match cdParamType key with
      | 1 => if part.name.isSome then (p.raise CD_PARAM_REPEATED, part) else cdLoop k rest p { part with name := some n }
      | 2 => if part.file.isSome then (p.raise CD_PARAM_REPEATED, part) else cdLoop k rest p { part with file := some { filename := n } }
      | _ => (p.raise CD_PARAM_UNKNOWN, part) := by
  have hsp : ∀ t : Bytes, (key ++ EQS :: t).dropWhile Gen.cIsspace = key ++ EQS :: t := by
    intro t
    cases key with
    | nil => exact dropWhile_space_cons _ _ (by decide)
    | cons c key =>
      have := hk c (by simp)
      exact dropWhile_space_cons _ _ (by simp only [Bool.and_eq_true, Bool.not_eq_true'] at this; exact this.1)
  have hs := scanQuoted_esc n rest []
  rw [cdLoop]
  simp only [List.isEmpty_cons, Bool.false_eq_true, if_false, dropWhile_space_cons SEMI _ (by decide), bne_self_eq_false,
    List.dropWhile_cons_of_pos (show Gen.cIsspace 32 = true by decide), hsp,
    takeWhile_stop _ key EQS _ hk (by decide), List.drop_left, dropWhile_space_cons EQS _ (by decide),
    dropWhile_space_cons DQUOTE _ (by decide), hs, List.reverse_nil, List.nil_append, decodeQuoted_esc]
  cases key <;> rfl

/-- the optional file-name parameter -/
def cdTail : Option Bytes → Bytes
  | none => []
  | some f => (b!"; filename=\"") ++ (esc f ++ [DQUOTE])

/-- the Content-Disposition value a sender writes for a field `n` (and file name `f`) -/
def cdValue (n : Bytes) (f : Option Bytes) : Bytes :=
  (b!"form-data") ++ ((b!"; name=\"") ++ (esc n ++ DQUOTE :: cdTail f))

theorem cdLoop_nil (k : Nat) (p : Parser) (part : Part) : cdLoop (k + 1) [] p part = (p, part) := rfl


def plain (d : Bytes) : Prop := ∀ c ∈ d, c ≠ CR ∧ c ≠ LF

theorem dataIn_plain (data : Bytes) (sp drp : Nat) (fuel : Nat) (p : Parser) (pos : Nat)
    (hp : plain (data.drop pos)) (hc : p.crAside = 0) (hpos : pos ≤ data.length) (hf : data.length - pos + 1 ≤ fuel) :
    parseLoop data fuel .dataIn p pos sp drp = handleData p (slice data sp data.length) false := by
  induction fuel generalizing pos with
  | zero => omega
  | succ k ih =>
    unfold parseLoop
    simp only
    by_cases hlt : pos < data.length
    · have hm := hp _ (getD_mem_drop data pos 0 hlt)
      have h1 : (data.getD pos 0 == CR) = false := by simpa using hm.1
      have h2 : (data.getD pos 0 == LF) = false := by simpa using hm.2
      simp only [hlt, if_true, h1, h2, Bool.false_eq_true, if_false, hc, bne_self_eq_false]
      apply ih
      · intro c hcm
        apply hp
        have : data.drop (pos + 1) = (data.drop pos).drop 1 := by simp [List.drop_drop]
        rw [this] at hcm
        exact List.mem_of_mem_drop hcm
      · omega
      · omega
    · simp only [hlt, if_false, hc, Nat.sub_zero]
      have : pos = data.length := by omega
      rw [this]

theorem slice_all (d : Bytes) : slice d 0 d.length = d := by simp [slice]

theorem parseFuel_ge (p : Parser) (d : Bytes) : d.length + 3 ≤ parseFuel p d := by
  unfold parseFuel
  have h : 4 * (d.length + 2) * 3 ≤ 4 * (d.length + 2) * (p.boundary.length + 3) := Nat.mul_le_mul_left _ (by omega)
  generalize 4 * (d.length + 2) * (p.boundary.length + 3) = x at h
  omega

theorem plain_append {a b : Bytes} (ha : plain a) (hb : plain b) : plain (a ++ b) := by
  intro c hc
  rcases List.mem_append.mp hc with h | h
  · exact ha c h
  · exact hb c h

/-- the value a non-file part will get from its data pieces -/
def pendingValue (p : Parser) : Bytes := p.dataPieces.flatten

theorem handleData_cur (p : Parser) (part : Part) (d : Bytes) (isLine : Bool) (hd : d ≠ []) (hcur : p.cur = some part) :
    handleData p d isLine = partHandleData p part d isLine := by
  unfold handleData
  cases d with
  | nil => exact absurd rfl hd
  | cons x t => simp [hcur]

/-- the piece is appended by the first test of `partHandleData` for an unknown part after the last boundary, otherwise by the last -/
theorem partHandleData_data (p : Parser) (part : Part) (d : Bytes) (hm : p.mode = .data) (ht : (part.type == T_FILE) = false) :
    partHandleData p part d false =
      { p with dataPieces := p.dataPieces ++ [d], cur := some { part with len := part.len + d.length } } := by
  unfold partHandleData
  cases hu : hasFlag p.flags SEEN_LAST_BOUNDARY && part.type == T_UNKNOWN <;> simp [hu, hm, ht]

end Htp.Multipart
