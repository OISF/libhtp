/- What a data call of one direction leaves of the OTHER direction, per call (in a history the calls of the two directions interleave, so
   what is known about one direction must survive the calls of the other: Lemmas/History.lean, HistorySticky.lean, HistoryTunnel.lean use
   this file). The functions below the drivers are covered by the two frames of Lemmas/DirFrames.lean; here are
   * the views of them the history theorems use, as projections: `KeepIV` / `KeepOV` (line buffer, parser state, the two amounts owed),
     `KeepISt` (the request direction's stream status), `KeepU` (both stream statuses);
   * what a whole response data call does to the request direction (`ResCross`): its line buffer is not touched; its parser state and amounts
     owed are not touched, or the request parser is left in a state that counts no body bytes (`XIn`: RES_IDLE completes a request waiting in
     REQ_FINALIZE and makes up a transaction for an unmatched response, RES_BODY_DETERMINE forces REQ_FINALIZE on a 4xx answer to
     `Expect: 100-continue`); its stream status is written under a guard that spares ERROR (`KeepIE`: the refused CONNECT, the 101 switch);
   * what a whole request data call does to the response direction (`ReqCross`): line buffer, parser state and amounts owed are not touched
     (`KeepOV`), the stream status is written under guards that spare ERROR (`KeepOE`: the DATA_OTHER wake-up, the CONNECT probe's switch);
   * htp_connp_open and htp_connp_tx_freed, which touch neither direction's record once a status is no longer NEW. -/
import HtpModel.Lemmas.DirFrames
import HtpModel.Lemmas.OwedOut
import HtpModel.Lemmas.Calls
namespace Htp.Conn
open Htp Htp.Gen

@[reducible] def InView (c : Conn) : Option Bytes × ReqState × Int × Int :=
  (c.inn.buf, c.inState, c.inn.bodyDataLeft, c.inn.chunkedLength)

@[reducible] def KeepIV (c c' : Conn) : Prop := InView c' = InView c

theorem KeepIV.refl (c : Conn) : KeepIV c c := rfl
theorem KeepIV.trans {a b c : Conn} (h1 : KeepIV a b) (h2 : KeepIV b c) : KeepIV a c := Eq.trans h2 h1

theorem KeepIV.buf {c c' : Conn} (h : KeepIV c c') : c'.inn.buf = c.inn.buf := congrArg (·.1) h
theorem KeepIV.st {c c' : Conn} (h : KeepIV c c') : c'.inState = c.inState := congrArg (·.2.1) h
theorem KeepIV.left {c c' : Conn} (h : KeepIV c c') : c'.inn.bodyDataLeft = c.inn.bodyDataLeft := congrArg (·.2.2.1) h
theorem KeepIV.chunked {c c' : Conn} (h : KeepIV c c') : c'.inn.chunkedLength = c.inn.chunkedLength := congrArg (·.2.2.2) h

theorem ResFrame.keepIV {c c' : Conn} (h : ResFrame c c') : KeepIV c c' := by
  have e := h.inn
  show (c'.inn.buf, c'.inState, c'.inn.bodyDataLeft, c'.inn.chunkedLength) = (c.inn.buf, c.inState, c.inn.bodyDataLeft, c.inn.chunkedLength)
  rw [h.inState, show c'.inn.buf = c.inn.buf from congrArg (·.buf) e,
    show c'.inn.bodyDataLeft = c.inn.bodyDataLeft from congrArg (·.bodyDataLeft) e,
    show c'.inn.chunkedLength = c.inn.chunkedLength from congrArg (·.chunkedLength) e]

theorem keepIV_runCallbackN (n : Nat) (h : Hook) (uid : Option Nat) (data : Option Bytes) (l : Bool) (g : Nat) (c : Conn) :
    KeepIV c (runCallbackN n h uid data l g c).1 := (ResFrame.of_quiet (.of_inert (inert_runCallbackN ..))).keepIV
theorem keepIV_setTx (t : Tx) (c : Conn) : KeepIV c (c.setTx t) := rfl
theorem buffer_keepIV_out (c : Conn) (d : Dir) : KeepIV c { c with out := d } := rfl

@[reducible] def OutView (c : Conn) : Option Bytes × ResState × Int × Int :=
  (c.out.buf, c.outState, c.out.bodyDataLeft, c.out.chunkedLength)

@[reducible] def KeepOV (c c' : Conn) : Prop := OutView c' = OutView c

theorem KeepOV.refl (c : Conn) : KeepOV c c := rfl
theorem KeepOV.trans {a b c : Conn} (h1 : KeepOV a b) (h2 : KeepOV b c) : KeepOV a c := Eq.trans h2 h1

theorem KeepOV.buf {c c' : Conn} (h : KeepOV c c') : c'.out.buf = c.out.buf := congrArg (·.1) h
theorem KeepOV.st {c c' : Conn} (h : KeepOV c c') : c'.outState = c.outState := congrArg (·.2.1) h
theorem KeepOV.left {c c' : Conn} (h : KeepOV c c') : c'.out.bodyDataLeft = c.out.bodyDataLeft := congrArg (·.2.2.1) h
theorem KeepOV.chunked {c c' : Conn} (h : KeepOV c c') : c'.out.chunkedLength = c.out.chunkedLength := congrArg (·.2.2.2) h

theorem ReqFrame.keepOV {c c' : Conn} (h : ReqFrame c c') : KeepOV c c' := by
  have e := h.out
  show (c'.out.buf, c'.outState, c'.out.bodyDataLeft, c'.out.chunkedLength) = (c.out.buf, c.outState, c.out.bodyDataLeft, c.out.chunkedLength)
  rw [h.outState, show c'.out.buf = c.out.buf from congrArg (·.buf) e,
    show c'.out.bodyDataLeft = c.out.bodyDataLeft from congrArg (·.bodyDataLeft) e,
    show c'.out.chunkedLength = c.out.chunkedLength from congrArg (·.chunkedLength) e]

theorem owedPosO_of_keepOV {c c' : Conn} (k : KeepOV c c') (h : OwedPosO c) : OwedPosO c' :=
  owedPosO_of_same k.st k.left k.chunked h

theorem outBufLen_of_keepOV {c c' : Conn} (k : KeepOV c c') : outBufLen c' = outBufLen c := by
  unfold outBufLen; rw [k.buf]

@[reducible] def KeepISt (c c' : Conn) : Prop := c'.inn.status = c.inn.status

theorem KeepISt.refl (c : Conn) : KeepISt c c := rfl
theorem KeepISt.trans {a b c : Conn} (h1 : KeepISt a b) (h2 : KeepISt b c) : KeepISt a c := Eq.trans h2 h1

theorem keepISt_runCallbackN (n : Nat) (h : Hook) (uid : Option Nat) (data : Option Bytes) (l : Bool) (g : Nat) (c : Conn) :
    KeepISt c (runCallbackN n h uid data l g c).1 := (ResFrame.of_quiet (.of_inert (inert_runCallbackN ..))).innStatus
theorem keepISt_setTx (t : Tx) (c : Conn) : KeepISt c (c.setTx t) := rfl
theorem keepISt_reqReceiverSet (h : Hook) (c : Conn) : KeepISt c (reqReceiverSet h c).1 := (reqFrame_reqReceiverSet h c).innStatus

@[reducible] def SView (c : Conn) : Nat × Nat := (c.inn.status, c.out.status)

@[reducible] def KeepU (c c' : Conn) : Prop := SView c' = SView c

theorem KeepU.refl (c : Conn) : KeepU c c := rfl
theorem KeepU.trans {a b c : Conn} (h1 : KeepU a b) (h2 : KeepU b c) : KeepU a c := Eq.trans h2 h1
theorem KeepU.inn {c c' : Conn} (h : KeepU c c') : c'.inn.status = c.inn.status := congrArg (·.1) h
theorem KeepU.out {c c' : Conn} (h : KeepU c c') : c'.out.status = c.out.status := congrArg (·.2) h

theorem KeepU.of_eq {c c' : Conn} (hi : c'.inn.status = c.inn.status) (ho : c'.out.status = c.out.status) : KeepU c c' := by
  show (c'.inn.status, c'.out.status) = (c.inn.status, c.out.status)
  rw [hi, ho]

theorem ResFrame.keepU {c c' : Conn} (h : ResFrame c c') : KeepU c c' := .of_eq h.innStatus h.outStatus
theorem ReqFrame.keepU {c c' : Conn} (h : ReqFrame c c') : KeepU c c' := .of_eq h.innStatus h.outStatus

theorem keepU_runCallbackN (n : Nat) (h : Hook) (uid : Option Nat) (data : Option Bytes) (l : Bool) (g : Nat) (c : Conn) :
    KeepU c (runCallbackN n h uid data l g c).1 := (ResFrame.of_quiet (.of_inert (inert_runCallbackN ..))).keepU

theorem keepU_resExpectShortcut (t : Tx) (c : Conn) : KeepU c (resExpectShortcut t c) := by
  unfold resExpectShortcut
  repeat' split
  all_goals exact rfl

/-- from `c` to `c'` the request direction's line buffer is the same, and either the parser state and the amounts owed as well, or the
    request parser is in a state that counts no body bytes -/
def XIn (c c' : Conn) : Prop := c'.inn.buf = c.inn.buf ∧ (KeepIV c c' ∨ NotOwing c'.inState)

theorem XIn.of_keep {c c' : Conn} (h : KeepIV c c') : XIn c c' := ⟨h.buf, Or.inl h⟩
theorem XIn.refl (c : Conn) : XIn c c := XIn.of_keep rfl
theorem XIn.trans {a b c : Conn} (h1 : XIn a b) (h2 : XIn b c) : XIn a c := by
  refine ⟨h2.1.trans h1.1, ?_⟩
  rcases h2.2 with k2 | n2
  · rcases h1.2 with k1 | n1
    · exact Or.inl (k1.trans k2)
    · right; rw [k2.st]; exact n1
  · exact Or.inr n2

theorem owedPos_of_xIn {c c' : Conn} (x : XIn c c') (h : OwedPos c) : OwedPos c' := by
  rcases x.2 with k | n
  · exact ⟨fun e => by rw [k.left]; exact h.1 (by rw [← k.st]; exact e), fun e => by rw [k.chunked]; exact h.2 (by rw [← k.st]; exact e)⟩
  · exact owedPos_of_notOwing n

theorem inBufLen_of_xIn {c c' : Conn} (x : XIn c c') : inBufLen c' = inBufLen c := by
  unfold inBufLen; rw [x.1]

def KeepIE (c c' : Conn) : Prop := c.inn.status = STREAM_ERROR → c'.inn.status = STREAM_ERROR

theorem KeepIE.of_eq {c c' : Conn} (h : c'.inn.status = c.inn.status) : KeepIE c c' := fun e => Eq.trans h e

/-- what a response-direction function, up to a whole data call, leaves of the request direction -/
def ResCross (c c' : Conn) : Prop := XIn c c' ∧ KeepIE c c'

theorem ResCross.refl (c : Conn) : ResCross c c := ⟨XIn.refl c, id⟩
theorem ResCross.trans {a b c : Conn} (h1 : ResCross a b) (h2 : ResCross b c) : ResCross a c :=
  ⟨h1.1.trans h2.1, fun e => h2.2 (h1.2 e)⟩
theorem ResCross.of_frame {c c' : Conn} (h : ResFrame c c') : ResCross c c' := ⟨XIn.of_keep h.keepIV, KeepIE.of_eq h.innStatus⟩
theorem ResCross.setOut (c : Conn) (d : Dir) : ResCross c { c with out := d } := ⟨XIn.of_keep rfl, id⟩

/-- **a refused CONNECT, exactly as the request direction sees it**: its status is set to DATA unless it is ERROR or STOP, and nothing
    else of it is written (the cross-direction frame and the tunnel pair invariant both read this) -/
theorem resRefusedConnect_inn (t : Tx) (c : Conn) :
    KeepIV c (resRefusedConnect t c) ∧ (resRefusedConnect t c).out = c.out ∧
    ((resRefusedConnect t c).inn.status = c.inn.status ∨
     ((resRefusedConnect t c).inn.status = STREAM_DATA ∧ c.inn.status ≠ STREAM_ERROR ∧ c.inn.status ≠ STREAM_STOP)) := by
  unfold resRefusedConnect
  split
  · split
    · rename_i hg
      simp only [Bool.and_eq_true, bne_iff_ne, ne_eq] at hg
      exact ⟨rfl, rfl, .inr ⟨rfl, hg.1, hg.2⟩⟩
    · exact ⟨rfl, rfl, .inl rfl⟩
  · exact ⟨rfl, rfl, .inl rfl⟩

/-- **101 Switching Protocols, exactly**: the response status is TUNNEL; the request status is TUNNEL too unless it is ERROR or STOP,
    which stay -/
theorem resSwitchTunnel_inn (c : Conn) :
    KeepIV c (resSwitchTunnel c) ∧ (resSwitchTunnel c).out.status = STREAM_TUNNEL ∧
    (((resSwitchTunnel c).inn.status = c.inn.status ∧ (c.inn.status = STREAM_ERROR ∨ c.inn.status = STREAM_STOP)) ∨
     ((resSwitchTunnel c).inn.status = STREAM_TUNNEL ∧ c.inn.status ≠ STREAM_ERROR ∧ c.inn.status ≠ STREAM_STOP)) := by
  unfold resSwitchTunnel
  simp only
  split
  · rename_i hg
    simp only [Bool.and_eq_true, bne_iff_ne, ne_eq] at hg
    exact ⟨rfl, trivial, .inr ⟨rfl, hg.1, hg.2⟩⟩
  · rename_i hn
    simp only [Bool.and_eq_true, bne_iff_ne, ne_eq, not_and, Decidable.not_not] at hn
    refine ⟨rfl, trivial, .inl ⟨rfl, ?_⟩⟩
    by_cases he : c.inn.status = STREAM_ERROR
    · exact .inl he
    · exact .inr (hn he)

theorem txCreate_view (cfg : Cfg) (c : Conn) :
    (txCreate cfg c).1.inn.buf = c.inn.buf ∧ ((txCreate cfg c).2 = none → KeepIV c (txCreate cfg c).1) := by
  unfold txCreate
  simp only []
  split
  · exact ⟨rfl, fun _ => rfl⟩
  · exact ⟨rfl, fun h => by simp at h⟩

theorem resIdleUnmatched_xIn_keepU (cfg : Cfg) (c : Conn) : XIn c (resIdleUnmatched cfg c).1 ∧ KeepU c (resIdleUnmatched cfg c).1 := by
  unfold resIdleUnmatched
  obtain ⟨hb, hn⟩ := txCreate_view cfg c
  have k := (reqFrame_txCreate cfg c).keepU
  rcases hx : txCreate cfg c with ⟨c2, u⟩
  rw [hx] at hb hn k
  simp only at hb hn k ⊢
  cases u with
  | none => exact ⟨XIn.of_keep ((hn rfl).trans rfl), k.trans rfl⟩
  | some uid =>
    simp only
    refine ⟨XIn.trans ?_ (XIn.of_keep (resFrame_txStateResponseStart ..).keepIV), KeepU.trans ?_ (resFrame_txStateResponseStart ..).keepU⟩
    · exact ⟨hb, Or.inr (notOwing_of_eq (s := .finalize) rfl ⟨by decide, by decide⟩)⟩
    · exact k.trans rfl

/-- RES_IDLE, walked once for both: what it leaves of the request direction (`XIn`: it may complete a request waiting in REQ_FINALIZE
    and make up a transaction for an unmatched response) and the two stream statuses, which it does not write -/
theorem resIdle_xIn_keepU (cfg : Cfg) (c : Conn) : XIn c (resIdle cfg c).1 ∧ KeepU c (resIdle cfg c).1 := by
  unfold resIdle
  refine ite_fst (P := fun x => XIn c x ∧ KeepU c x) (fun _ => ⟨XIn.refl c, rfl⟩) fun _ => ?_
  simp only []
  split
  · have hk : (fun x => XIn c x ∧ KeepU c x)
        (if c.inState == .finalize then (match c.inn.tx with | some uid => (txStateRequestComplete cfg uid c).1 | none => c) else c) := by
      refine ite_cases (P := fun x => XIn c x ∧ KeepU c x) (fun hf => ?_) fun _ => ⟨XIn.refl c, rfl⟩
      have hf' : c.inState = .finalize := by simpa using hf
      split
      · rename_i uid _
        refine ⟨⟨keepBuf_txStateRequestComplete cfg uid c, Or.inr ?_⟩, (reqFrame_txStateRequestComplete ..).keepU⟩
        exact (reqTx_txStateRequestComplete cfg uid c).2.notOwing (hf' ▸ by decide) fun _ h => by rcases h with rfl | rfl <;> decide
      · exact ⟨XIn.refl c, rfl⟩
    exact ⟨hk.1.trans (resIdleUnmatched_xIn_keepU ..).1, hk.2.trans (resIdleUnmatched_xIn_keepU ..).2⟩
  · rename_i t _
    let c1 : Conn :=
      { c with outNextTxIndex := c.outNextTxIndex + 1, out := { c.out with tx := some t.uid, contentLength := -1, bodyDataLeft := -1 } }
    have f := resFrame_txStateResponseStart t.uid c1
    exact ⟨XIn.of_keep (KeepIV.trans (b := c1) rfl f.keepIV), KeepU.trans (b := c1) rfl f.keepU⟩

theorem keepU_resIdle (cfg : Cfg) (c : Conn) : KeepU c (resIdle cfg c).1 := (resIdle_xIn_keepU cfg c).2

theorem resCross_resIdle (cfg : Cfg) (c : Conn) : ResCross c (resIdle cfg c).1 :=
  ⟨(resIdle_xIn_keepU cfg c).1, KeepIE.of_eq (resIdle_xIn_keepU cfg c).2.inn⟩

/-- an instance of the walk: the frame (`ResFrame`) for what touches the response direction only, RES_IDLE as a whole function, and the
    writes of RES_BODY_DETERMINE to the request direction, each under its guard -/
theorem resRelS_resCross (cfg : Cfg) : ResRelS cfg False (fun _ => True) ResCross where
  toResRel := (resRel_resFrame cfg).mono .of_frame ResCross.trans
  wake c _ h _ := ⟨XIn.of_keep rfl, fun e => absurd e h⟩
  -- a 4xx answer to `Expect: 100-continue`: REQ_FINALIZE counts no body bytes
  inFinalize _ := ⟨⟨rfl, Or.inr (notOwing_of_eq (s := .finalize) rfl ⟨by decide, by decide⟩)⟩, id⟩
  status c _ := .setOut c _
  resIdle := resCross_resIdle cfg

theorem resCross_resDriverLoop (cfg : Cfg) (g : Bool) (fuel : Nat) (c : Conn) : ResCross c (resDriverLoop cfg g fuel c).1 :=
  walk_resDriverLoop cfg (resRelS_resCross cfg) id g fuel c

/-- **a whole response data call** - any chunk, a stream gap or the NULL chunk of a close, any state, any callback policy - leaves the
    request direction's line buffer alone, its counted body states as they were or not counting, and its stream status in ERROR if it was -/
theorem resCross_resData (cfg : Cfg) (data : Option Bytes) (len : Nat) (c : Conn) : ResCross c (resData cfg data len c).1 := by
  rw [resData_eq]
  refine ResCross.trans ?_ (.setOut ..)
  exact resDataCore_cases (P := fun r => ResCross c r.1) cfg data len c (fun _ => .refl c) (fun _ => .refl c) (fun _ _ => .setOut ..)
    (fun _ _ => .refl c) (fun _ _ => .of_frame rfl)
    (fun _ _ _ _ => ResCross.trans (b := resStoreChunk data len c) (.of_frame rfl) (resCross_resDriverLoop ..))

/-- the request direction's half of the call invariant (Lemmas/History.lean) survives a response data call -/
theorem resData_keeps_req_invariant (cfg : Cfg) (data : Option Bytes) (len : Nat) (c : Conn)
    (hb : inBufLen c ≤ cfg.fieldLimitHard) (h0 : OwedPos c) :
    inBufLen (resData cfg data len c).1 ≤ cfg.fieldLimitHard ∧ OwedPos (resData cfg data len c).1 := by
  have x := (resCross_resData cfg data len c).1
  exact ⟨by rw [inBufLen_of_xIn x]; exact hb, owedPos_of_xIn x h0⟩

def KeepOE (c c' : Conn) : Prop := c.out.status = STREAM_ERROR → c'.out.status = STREAM_ERROR

/-- what a request-direction function, up to a whole data call, leaves of the response direction -/
def ReqCross (c c' : Conn) : Prop := KeepOV c c' ∧ KeepOE c c'

theorem ReqCross.refl (c : Conn) : ReqCross c c := ⟨rfl, id⟩
theorem ReqCross.trans {a b c : Conn} (h1 : ReqCross a b) (h2 : ReqCross b c) : ReqCross a c :=
  ⟨h1.1.trans h2.1, fun e => h2.2 (h1.2 e)⟩
theorem ReqCross.of_frame {c c' : Conn} (h : ReqFrame c c') : ReqCross c c' := ⟨h.keepOV, fun e => Eq.trans h.outStatus e⟩
theorem ReqCross.setInn (c : Conn) (d : Dir) : ReqCross c { c with inn := d } := ⟨rfl, id⟩

/-- an instance of the walk: the frame (`ReqFrame`) below, and the CONNECT probe's guarded switch of the response direction, which spares
    ERROR -/
theorem reqRelS_reqCross (cfg : Cfg) : ReqRelS cfg False (fun _ => True) ReqCross where
  toReqRel := (reqRel_reqFrame cfg).mono .of_frame ReqCross.trans
  status c _ := .setInn c _
  outTunnel c := ⟨rfl, fun e => by
    show (if (c.out.status == STREAM_ERROR || c.out.status == STREAM_STOP) = true then c.out.status else STREAM_TUNNEL) = STREAM_ERROR
    simp [e]⟩

theorem reqCross_reqDriverLoop (cfg : Cfg) (g : Bool) (fuel : Nat) (c : Conn) : ReqCross c (reqDriverLoop cfg g fuel c).1 :=
  walk_reqDriverLoop cfg (reqRelS_reqCross cfg) id g fuel c

/-- the wake-up at the start of a request data call rewrites DATA_OTHER only -/
theorem reqCross_reqWakeOther (c : Conn) : ReqCross c (reqWakeOther c) := by
  unfold reqWakeOther
  refine ite_cases (fun _ => ?_) fun _ => ?_
  · rename_i h
    exact ⟨rfl, fun e => by rw [e] at h; exact absurd h (by decide)⟩
  · exact .refl c

/-- **a whole request data call** - any chunk, a stream gap or the NULL chunk of a close, any state, any callback policy - leaves the
    response direction's line buffer, parser state and amounts owed alone, and its stream status in ERROR if it was -/
theorem reqCross_reqData (cfg : Cfg) (data : Option Bytes) (len : Nat) (c : Conn) : ReqCross c (reqData cfg data len c).1 := by
  rw [reqData_eq]
  refine ReqCross.trans ?_ (.setInn ..)
  exact reqDataCore_cases (P := fun r => ReqCross c r.1) cfg data len c (fun _ => .refl c) (fun _ => .refl c) (fun _ _ => .setInn ..)
    (fun _ _ => .refl c) (fun _ _ => .of_frame rfl)
    (fun _ _ _ _ => ReqCross.trans (b := reqWakeOther (reqStoreChunk data len c))
      (ReqCross.trans (b := reqStoreChunk data len c) (.of_frame rfl) (reqCross_reqWakeOther _)) (reqCross_reqDriverLoop ..))

/-- the response direction's half of the call invariant survives a request data call -/
theorem reqData_keeps_res_invariant (cfg : Cfg) (data : Option Bytes) (len : Nat) (c : Conn)
    (hb : outBufLen c ≤ cfg.fieldLimitHard) (h0 : OwedPosO c) :
    outBufLen (reqData cfg data len c).1 ≤ cfg.fieldLimitHard ∧ OwedPosO (reqData cfg data len c).1 := by
  have k := (reqCross_reqData cfg data len c).1
  exact ⟨by rw [outBufLen_of_keepOV k]; exact hb, owedPosO_of_keepOV k h0⟩

theorem connOpen_of_ne (c : Conn) (h : c.inn.status ≠ STREAM_NEW ∨ c.out.status ≠ STREAM_NEW) : connOpen c = c := by
  unfold connOpen
  rcases h with h | h
  · have : (c.inn.status != STREAM_NEW) = true := by simpa using h
    simp [this]
  · have : (c.out.status != STREAM_NEW) = true := by simpa using h
    simp [this]

theorem txFreedLoop_dirs (fuel : Nat) (c : Conn) (r : Nat) :
    (txFreedLoop fuel c r).1.inn = c.inn ∧ (txFreedLoop fuel c r).1.out = c.out ∧ (txFreedLoop fuel c r).1.inState = c.inState ∧
    (txFreedLoop fuel c r).1.outState = c.outState ∧ (txFreedLoop fuel c r).1.events = c.events := by
  have h := txFreedLoop_rel
    (Rel := fun c c' => (c'.inn, c'.out, c'.inState, c'.outState, c'.events) = (c.inn, c.out, c.inState, c.outState, c.events))
    (fun _ => rfl) (fun h1 h2 => h2.trans h1) (fun _ _ _ => rfl) fuel c r
  exact ⟨congrArg (·.1) h, congrArg (·.2.1) h, congrArg (·.2.2.1) h, congrArg (·.2.2.2.1) h, congrArg (·.2.2.2.2) h⟩

theorem txFreed_dirs (c : Conn) :
    (txFreed c).1.inn = c.inn ∧ (txFreed c).1.out = c.out ∧ (txFreed c).1.inState = c.inState ∧
    (txFreed c).1.outState = c.outState ∧ (txFreed c).1.events = c.events := txFreedLoop_dirs _ c 0

end Htp.Conn
