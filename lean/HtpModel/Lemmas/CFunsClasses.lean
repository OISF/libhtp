/- The character classes of htp_util.c that are `switch` statements (htp_is_space, htp_is_separator) and htp_is_token (which calls
   htp_is_separator), as translated in HtpModel/Gen/CFuns.lean = the regenerated bit-mask tables
   `Htp.Gen.isSpace`, `Htp.Gen.isSeparator`, `Htp.Gen.isToken` on every byte. Route: a statement for every `Int`
   argument by unfolding and a case split on the translated condition, then a complete check of the 256 bytes. -/
import HtpModel.Lemmas.CFunsBase
namespace Htp.CFuns
open Htp Htp.CSem Htp.Gen.C Htp.Gen
set_option linter.unusedSimpArgs false

/-- the `switch` of htp_is_space as the translator prints it -/
def spaceB (x : Int) : Bool :=
  (decide (x = 32)) || (decide (x = 12)) || (decide (x = 11)) || (decide (x = 9)) || (decide (x = 13)) || (decide (x = 10))

/-- the `switch` of htp_is_separator as the translator prints it -/
def separatorB (x : Int) : Bool :=
  (decide (x = 40)) || (decide (x = 41)) || (decide (x = 60)) || (decide (x = 62)) || (decide (x = 64)) || (decide (x = 44)) ||
  (decide (x = 59)) || (decide (x = 58)) || (decide (x = 92)) || (decide (x = 34)) || (decide (x = 47)) || (decide (x = 91)) ||
  (decide (x = 93)) || (decide (x = 63)) || (decide (x = 61)) || (decide (x = 123)) || (decide (x = 125)) || (decide (x = 32)) ||
  (decide (x = 9))

/-- `if (c) return 1; else return 0;` -/
theorem run_ite_ret10 {σ : Type} (c : σ → Option Bool) (s : σ) :
    run (iteS c (retS (fun _ => some 1)) (retS (fun _ => some 0))) s = (c s).map (fun b => (if b then 1 else 0, s)) := by
  unfold run iteS retS
  rcases c s with _ | b
  · rfl
  · cases b <;> rfl

theorem htp_is_space_int (fuel : Nat) (x : Int) :
    htp_is_space fuel x = some (if spaceB x then 1 else 0, { c := x }) := by
  unfold htp_is_space htp_is_space_stmt
  rw [run_ite_ret10]
  rfl

theorem htp_is_separator_int (fuel : Nat) (x : Int) :
    htp_is_separator fuel x = some (if separatorB x then 1 else 0, { c := x }) := by
  unfold htp_is_separator htp_is_separator_stmt
  rw [run_ite_ret10]
  rfl

theorem htp_is_token_int (fuel : Nat) (x : Int) :
    htp_is_token fuel x = some (if x < 32 ∨ x > 126 then 0 else if separatorB x then 0 else 1, { c := x }) := by
  simp only [htp_is_token, htp_is_token_stmt, run, iteS, retS, seqS, skipS, htp_is_separator_int]
  by_cases h1 : x < 32
  · simp [h1]
  · by_cases h2 : x > 126
    · simp [h2]
    · cases h3 : separatorB x <;> simp [h1, h2, h3]

theorem space_table : ∀ c : UInt8, (if spaceB (c.toNat : Int) then (1 : Int) else 0) = b2i (Htp.Gen.isSpace c) := by
  apply forall_uint8_of_lt
  decide +kernel

theorem separator_table : ∀ c : UInt8, (if separatorB (c.toNat : Int) then (1 : Int) else 0) = b2i (Htp.Gen.isSeparator c) := by
  apply forall_uint8_of_lt
  decide +kernel

theorem token_table : ∀ c : UInt8,
    (if (c.toNat : Int) < 32 ∨ (c.toNat : Int) > 126 then (0 : Int) else if separatorB (c.toNat : Int) then 0 else 1)
      = b2i (Htp.Gen.isToken c) := by
  apply forall_uint8_of_lt
  decide +kernel

theorem htp_is_space_eq (fuel : Nat) (c : UInt8) :
    (htp_is_space fuel c.toNat).map (·.1) = some (b2i (Htp.Gen.isSpace c)) := by
  rw [htp_is_space_int]; simp only [Option.map_some]; rw [space_table]

/-- the call with -1 ("no byte") -/
theorem htp_is_space_neg1 (fuel : Nat) :
    (htp_is_space fuel (-1)).map (·.1) = some (b2i Htp.Gen.isSpaceNeg1) := by
  rw [htp_is_space_int]; rfl

theorem htp_is_separator_eq (fuel : Nat) (c : UInt8) :
    (htp_is_separator fuel c.toNat).map (·.1) = some (b2i (Htp.Gen.isSeparator c)) := by
  rw [htp_is_separator_int]; simp only [Option.map_some]; rw [separator_table]

theorem htp_is_token_eq (fuel : Nat) (c : UInt8) :
    (htp_is_token fuel c.toNat).map (·.1) = some (b2i (Htp.Gen.isToken c)) := by
  rw [htp_is_token_int]; simp only [Option.map_some]; rw [token_table]

end Htp.CFuns

#print axioms Htp.CFuns.htp_is_space_eq
#print axioms Htp.CFuns.htp_is_space_neg1
#print axioms Htp.CFuns.htp_is_separator_eq
#print axioms Htp.CFuns.htp_is_token_eq
