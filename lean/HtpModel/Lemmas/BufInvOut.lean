/- The response direction's record under the response-direction functions: every tx-level function leaves chunk, cursors and line buffer
   alone (`KeepO`), so a predicate the cursor primitives and the response side's direct writes of the offsets keep (`DirInvO`) is, as a
   relation (`InvRelO`), an instance of the walk of Lemmas/StateWalkOut.lean (`resRelS_inv`). `WFBO` - cursors inside the chunk, line buffer
   within the hard limit; the consume offset may run ahead of the read offset after an un-read, so `consume <= read` is not part of it -
   is such a predicate, and the whole loop of a data call keeps it (`resDriverLoop_wfbo`; `outBufLen`: the call-to-call bound, C10). -/
import HtpModel.Lemmas.DirInv
import HtpModel.Lemmas.StateWalkOut
namespace Htp.Conn
open Htp Htp.Gen

def KeepO (c c' : Conn) : Prop := SameCur c.out c'.out ∧ c'.out.buf = c.out.buf

theorem KeepO.refl (c : Conn) : KeepO c c := ⟨SameCur.refl _, rfl⟩
theorem KeepO.trans {a b c : Conn} (h1 : KeepO a b) (h2 : KeepO b c) : KeepO a c := ⟨SameCur.trans h1.1 h2.1, Eq.trans h2.2 h1.2⟩
theorem KeepO.of_quiet {c c' : Conn} (h : ResQuiet c c') : KeepO c c' :=
  have e : c'.out.curView = c.out.curView := congrArg (·.1) h
  ⟨⟨congrArg (·.2.2.2.2.1) e, congrArg (·.2.2.2.1) e, congrArg (·.2.2.2.2.2.1) e, congrArg (·.2.1) e, congrArg (·.2.2.1) e⟩,
    congrArg (·.2.2.2.2.2.2) e⟩

theorem keepO_setTx (t : Tx) (c : Conn) : KeepO c (c.setTx t) := ⟨⟨rfl, rfl, rfl, rfl, rfl⟩, rfl⟩
theorem keepO_modIn (f : Tx → Tx) (c : Conn) : KeepO c (c.modIn f) := by
  unfold Conn.modIn; split <;> exact ⟨⟨rfl, rfl, rfl, rfl, rfl⟩, rfl⟩
theorem keepO_runCallbackN (n : Nat) (h : Hook) (uid : Option Nat) (data : Option Bytes) (l : Bool) (g : Nat) (c : Conn) :
    KeepO c (runCallbackN n h uid data l g c).1 := .of_quiet (walk_runCallbackN (resTx_cb fun _ => False) ..).1

theorem keepO_txStateResponseStart (uid : Nat) (c : Conn) : KeepO c (txStateResponseStart uid c).1 :=
  .of_quiet (resTx_txStateResponseStart uid c).1
theorem keepO_resHeaderLine (uid : Nat) (line : Bytes) (c : Conn) : KeepO c (resHeaderLine uid line c).1 :=
  .of_quiet (resTx_resHeaderLine uid line c).1

/-- RES_IDLE completes the request -/
theorem keepO_txStateRequestComplete (cfg : Cfg) (uid : Nat) (c : Conn) : KeepO c (txStateRequestComplete cfg uid c).1 := by
  have h := congrArg (·.2.1) (reqTx_txStateRequestComplete cfg uid c).1
  unfold Dir.eraseTx at h
  injection h
  unfold KeepO SameCur
  simp_all

theorem keepO_txCreate (cfg : Cfg) (c : Conn) : KeepO c (txCreate cfg c).1 := by
  unfold txCreate
  simp only []
  split <;> exact ⟨⟨rfl, rfl, rfl, rfl, rfl⟩, rfl⟩

/-- (`KeepO` is kept by no cursor move: it is of the tx-level layer only) -/
theorem keepO_resBodyDetermine (cfg : Cfg) (c : Conn) : KeepO c (resBodyDetermine cfg c).1 :=
  walk_resBodyDetermine ((resTx_fn fun _ => True).mono (Rel' := KeepO) (fun t => .of_quiet t.1) KeepO.trans)
    ⟨fun _ _ _ _ => ⟨⟨rfl, rfl, rfl, rfl, rfl⟩, rfl⟩, fun _ => ⟨⟨rfl, rfl, rfl, rfl, rfl⟩, rfl⟩, fun _ _ => ⟨⟨rfl, rfl, rfl, rfl, rfl⟩, rfl⟩⟩ cfg c

structure WFO (d : Dir) : Prop where
  notNull : d.curNull = false
  c0 : 0 ≤ d.consume
  r0 : 0 ≤ d.read
  rl : d.read ≤ d.len
  lc : d.len ≤ (d.cur.length : Int)
  small : d.len < 18446744073709551616

def WFBO (hard : Nat) (d : Dir) : Prop := WFO d ∧ (d.buf.map (·.length)).getD 0 ≤ hard

theorem wfo_of_wfcur (d : Dir) (w : WFCur d) : WFO d := ⟨w.notNull, w.c0, Int.le_trans w.c0 w.cr, w.rl, w.lc, w.small⟩

theorem wfbo_same {hard : Nat} {d d' : Dir} (w : WFBO hard d) (h : SameCur d d') (hb : d'.buf = d.buf) : WFBO hard d' := by
  obtain ⟨h1, h2, h3, h4, h5⟩ := h
  refine ⟨⟨by rw [h5]; exact w.1.notNull, by rw [h3]; exact w.1.c0, by rw [h1]; exact w.1.r0, by rw [h1, h2]; exact w.1.rl,
    by rw [h2, h4]; exact w.1.lc, by rw [h2]; exact w.1.small⟩, by rw [hb]; exact w.2⟩

/-- the response side's variant of `DirInv`: the offsets are also set directly (a line is un-read, the line buffer is cut back, `consume`
    is set to `read`). `loose`: any rewrite of read / consume / buf that keeps the chunk, keeps both offsets from 0 and the read offset up
    to the length (under `B`), and does not lengthen the line buffer, keeps `P` - so `P` may not look at `consume <= read`. Its arguments in order: `P d`, the chunk, the
    NULL flag, the length, the offsets clause (under `B`), the buffer-length clause. -/
structure DirInvO (hard : Nat) (B : Prop) (P : Dir → Prop) : Prop extends DirInv hard B P where
  loose : ∀ {d d' : Dir}, P d → d'.cur = d.cur → d'.curNull = d.curNull → d'.len = d.len →
    (B → 0 ≤ d.consume → 0 ≤ d.read → d.read ≤ d.len → 0 ≤ d'.consume ∧ 0 ≤ d'.read ∧ d'.read ≤ d'.len) →
    (d'.buf.map (·.length)).getD 0 ≤ (d.buf.map (·.length)).getD 0 → P d'

theorem dirInvO_wfbo (hard : Nat) : DirInvO hard True (WFBO hard) where
  same w h hb := wfbo_same w h hb
  step h w := by
    have := w.1.c0; have := w.1.r0; have := w.1.rl
    cases h with
    | copy h =>
      obtain ⟨hlt, e, _⟩ := Dir.copyByte_eq h
      rw [e]
      exact ⟨⟨w.1.notNull, w.1.c0, by simp only []; omega, by simp only []; omega, w.1.lc, w.1.small⟩, w.2⟩
    | take h =>
      obtain ⟨hlt, e⟩ := Dir.nextByteConsume_eq h
      rw [e]
      exact ⟨⟨w.1.notNull, by simp only []; omega, by simp only []; omega, by simp only []; omega, w.1.lc, w.1.small⟩, w.2⟩
    | setAside h =>
      refine ⟨?_, Dir.buffer_bound h (by have := w.1.small; omega) w.2⟩
      rcases Dir.buffer_eq h with ⟨rfl, _⟩ | ⟨_, _, rfl⟩
      · exact w.1
      · exact ⟨w.1.notNull, w.1.r0, w.1.r0, w.1.rl, w.1.lc, w.1.small⟩
    | clear => exact ⟨⟨w.1.notNull, w.1.r0, w.1.r0, w.1.rl, w.1.lc, w.1.small⟩, Nat.zero_le _⟩
    | advance n h =>
      obtain ⟨h0, h1⟩ := h trivial w.1.rl
      exact ⟨⟨w.1.notNull, by simp only [Dir.advance]; omega, by simp only [Dir.advance]; omega, by simp only [Dir.advance]; omega,
        w.1.lc, w.1.small⟩, w.2⟩
    | readAll n => exact ⟨⟨w.1.notNull, w.1.c0, Int.le_trans w.1.r0 w.1.rl, Int.le_refl _, w.1.lc, w.1.small⟩, w.2⟩
  loose w h1 h2 h3 hc hb := by
    obtain ⟨a, b, c⟩ := hc trivial w.1.c0 w.1.r0 w.1.rl
    exact ⟨⟨by rw [h2]; exact w.1.notNull, a, b, c, by rw [h3, h1]; exact w.1.lc, by rw [h3]; exact w.1.small⟩, Nat.le_trans hb w.2⟩

section walk
variable {B : Prop} {P : Dir → Prop}

theorem DirInv.keepO {hard : Nat} (I : DirInv hard B P) {c c' : Conn} (k : KeepO c c') (w : P c.out) : P c'.out :=
  I.same w k.1 k.2

theorem inv_resIdleUnmatched {hard : Nat} (cfg : Cfg) (I : DirInv hard B P) (c : Conn) (w : P c.out) :
    P (resIdleUnmatched cfg c).1.out := by
  unfold resIdleUnmatched
  have k := keepO_txCreate cfg c
  rcases hx : txCreate cfg c with ⟨c2, u⟩
  rw [hx] at k
  simp only at k ⊢
  have w2 := I.keepO k w
  cases u with
  | none => exact I.same w2 ⟨rfl, rfl, rfl, rfl, rfl⟩ rfl
  | some uid =>
    simp only
    refine I.keepO (keepO_txStateResponseStart uid _) ?_
    exact I.same w2 ⟨rfl, rfl, rfl, rfl, rfl⟩ rfl

theorem inv_resIdle {hard : Nat} (cfg : Cfg) (I : DirInv hard B P) (c : Conn) (w : P c.out) : P (resIdle cfg c).1.out := by
  unfold resIdle
  split
  · exact w
  · simp only []
    split
    · apply inv_resIdleUnmatched cfg I
      split
      · split
        · exact I.keepO (keepO_txStateRequestComplete cfg _ c) w
        · exact w
      · exact w
    · refine I.keepO (keepO_txStateResponseStart _ _) ?_
      exact I.same w ⟨rfl, rfl, rfl, rfl, rfl⟩ rfl

def InvRelO (P : Dir → Prop) (c c' : Conn) : Prop := P c.out → P c'.out

/-- a predicate the cursor primitives and the un-read keep is kept by everything the response state functions do: with this instance the
    walk of Lemmas/StateWalkOut.lean gives `P c.out → P (f c).1.out` for every state function `f`, the parts of a pass and the driver loop -/
theorem resRelS_inv {cfg : Cfg} (I : DirInvO cfg.fieldLimitHard B P) : ResRelS cfg B (fun _ => True) (InvRelO P) where
  toResFnRel := (resTx_fn _).mono (fun q w => I.keepO (.of_quiet q.1) w) fun h1 h2 w => h2 (h1 w)
  same h w := I.eq w (congrArg (fun x : Conn => (x.out.read, x.out.len, x.out.consume, x.out.cur, x.out.curNull, x.out.buf)) h :)
  cursor h w := I.step h w
  unread h hc hb w := I.loose w (congrArg Dir.cur h :) (congrArg Dir.curNull h :) (congrArg Dir.len h :) hc hb
  wake _ _ _ _ w := w
  inFinalize _ w := w
  status _ _ w := I.same w ⟨rfl, rfl, rfl, rfl, rfl⟩ rfl
  resIdle c w := inv_resIdle cfg I.toDirInv c w

theorem eol_inv {hard : Nat} (I : DirInv hard B P) (b : UInt8) (lfcr : Bool) (c : Conn) :
    EolRes (c.out.peek = none) (InvRelO P c) (resHeadersEol b lfcr c) :=
  rel_resHeadersEol (Rel := InvRelO P) (fun h1 h2 w => h2 (h1 w)) (fun _ w => I.peekSet w) (fun h w => I.copyByte w h)
    (fun h w => I.step (.copyConsume h) w) b lfcr c

end walk

theorem wfboOut_resStateFn (cfg : Cfg) (c : Conn) (w : WFBO cfg.fieldLimitHard c.out)
    (ho1 : c.outState = ResState.bodyIdentityClKnown → 0 ≤ c.out.bodyDataLeft)
    (ho2 : c.outState = ResState.bodyChunkedData → 0 ≤ c.out.chunkedLength) : WFBO cfg.fieldLimitHard (resStateFn cfg c).1.out :=
  (walk_resStateFn cfg (resRelS_inv (dirInvO_wfbo _)) c (fun _ => ho1) (fun _ => ho2)) w

theorem resDriverLoop_wfbo (cfg : Cfg) (fuel : Nat) (c0 c : Conn) (hr : CallReachO cfg c0 c) (w : WFBO cfg.fieldLimitHard c.out)
    (ho : ∀ c', CallReachO cfg c0 c' → OwedOKO c') :
    WFBO cfg.fieldLimitHard (resDriverLoop cfg false fuel c).1.out :=
  have K := resRelS_inv (cfg := cfg) (dirInvO_wfbo cfg.fieldLimitHard)
  (resDriverLoop_is cfg false).rule (I := fun c => CallReachO cfg c0 c ∧ WFBO cfg.fieldLimitHard c.out)
    (Q := fun r => WFBO cfg.fieldLimitHard r.1.out) (fun _ h => wfbo_same h.2 ⟨rfl, rfl, rfl, rfl, rfl⟩ rfl) (fun _ h => h.2)
    (fun c r h hs => by
      cases resStep_false hs
      have wp : WFBO cfg.fieldLimitHard (resPass cfg c).1.out :=
        walk_resPassHook K.toResFnRel _ _ (wfboOut_resStateFn cfg c h.2 (ho c h.1).1 (ho c h.1).2)
      exact ⟨fun _ _ => wp, fun hok ht => ⟨h.1.pass hok (beq_eq_false_iff_ne.mpr ht), wp⟩, fun _ _ e => walk_resEnds K e wp⟩)
    fuel c ⟨hr, w⟩

def outBufLen (c : Conn) : Nat := (c.out.buf.map (·.length)).getD 0

theorem wfbo_resStoreChunk (hard : Nat) (d : Bytes) (c : Conn) (h : (d.length : Int) < 18446744073709551616) (hb : outBufLen c ≤ hard) :
    WFBO hard (resStoreChunk (some d) d.length c).out := by
  unfold resStoreChunk
  exact ⟨⟨rfl, Int.le_refl _, Int.le_refl _, by simp only []; omega, by simp [Option.getD], h⟩, hb⟩

/-- **a whole response data call keeps the line buffer within the hard limit**: any state, any chunk of data (not a gap), any callback
    policy - provided no pass of the call finds a negative amount owed in a counted body state -/
theorem resData_buffer_bounded (cfg : Cfg) (d : Bytes) (c : Conn) (hs : (d.length : Int) < 18446744073709551616)
    (hb : outBufLen c ≤ cfg.fieldLimitHard)
    (ho : ∀ c', CallReachO cfg (resStoreChunk (some d) d.length c) c' → OwedOKO c') :
    outBufLen (resData cfg (some d) d.length c).1 ≤ cfg.fieldLimitHard := by
  have wst := wfbo_resStoreChunk cfg.fieldLimitHard d c hs hb
  rw [resData_eq]
  exact resDataCore_cases (P := fun r => outBufLen r.1 ≤ cfg.fieldLimitHard) cfg _ _ c
    (fun _ => hb) (fun _ => hb) (fun _ _ => hb) (fun _ _ => hb) (fun _ _ => wst.2) fun _ _ _ _ =>
      (resDriverLoop_wfbo cfg _ _ _ CallReachO.start wst ho).2

end Htp.Conn
