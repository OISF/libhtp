/- The end of a data call and its driver loop, each stated once, for both directions.

   `ReqEnds` / `ResEnds` describe what the last part of a call does (`reqPassEnd_ends` / `resPassEnd_ends`). A fact about
   `reqPassEnd cfg c rc` is read off the description - `obtain ⟨c3, d, s, h3, hd, hs, e, hx⟩ := reqPassEnd_ends cfg c rc; rw [e]` and small
   case splits -, the function itself need not be unfolded again.

   `DriverLoop` is what `reqDriverLoop` and `resDriverLoop` have in common (`reqDriverLoop_is` / `resDriverLoop_is`); `DriverLoop.rule` is
   the induction over the fuel with the control flow of a pass done once (the progress argument of C08 compares the loop at two fuels
   and has inductions of its own: Lemmas/DriverFuel.lean, DriverFuelOut.lean). A loop theorem `I c → Q (reqDriverLoop cfg g fuel c)` is
     `(reqDriverLoop_is cfg g).rule (I := I) (Q := Q) fuel0 gapEnd pass fuel c h`
   with `fuel0` (out of fuel: the state is marked unsupported, ERROR is returned), `gapEnd` (a gap in a state that takes none: CLOSED)
   and, for one pass from a state with `I` whose step is `r`, writing `r2 = reqPassHook r.1 r.2`, three implications:
   OK and tunnel status: `Q (r2.1, STREAM_TUNNEL)`; OK otherwise: `I r2.1` (the loop goes on); any other answer: `Q r'` for every
   `r'` with `ReqEnds cfg r2.1 r2.2 r'`. For a relation between the start state `c0` and the result take `I := Rel c0`,
   `Q := fun r => Rel c0 r.1`.

   At the end: the states a data call passes through (`CallReach` / `CallReachO`) and what the counted body states owe in them (`OwedOK`,
   `OwedPos` and the response twins), the invariant side of most uses of the rule. -/
import HtpModel.Lemmas.Conn
import HtpModel.Lemmas.DriverPass
namespace Htp.Conn
open Htp Htp.Gen

/-- how a request data call ends from `c` on the answer `rc`: the receiver may be handed the rest of the chunk (`c3`), the rest may be set
    aside (`d`), and the status the call returns is the status it writes - ERROR, DATA, DATA_OTHER or STOP, never TUNNEL. By the answer:
    on HTP_DATA / HTP_DATA_BUFFER the receiver is called and DATA or ERROR returned; on any other nothing but the status is written, DATA
    only at the end of the chunk and DATA_OTHER only with bytes left. -/
def ReqEnds (cfg : Cfg) (c : Conn) (rc : Rc) (r : Conn × Nat) : Prop :=
  ∃ c3 d s, (c3 = c ∨ c3 = (reqReceiverSend false c).1) ∧ (d = c3.inn ∨ c3.inn.buffer cfg.fieldLimitHard true = some d) ∧
    (s = STREAM_ERROR ∨ s = STREAM_DATA ∨ s = STREAM_DATA_OTHER ∨ s = STREAM_STOP) ∧ r = ({ c3 with inn := { d with status := s } }, s) ∧
    (((rc = .data ∨ rc = .dataBuffer) ∧ c3 = (reqReceiverSend false c).1 ∧ (s = STREAM_DATA ∨ s = STREAM_ERROR)) ∨
     (rc ≠ .data ∧ rc ≠ .dataBuffer ∧ c3 = c ∧ d = c.inn ∧ (s = STREAM_DATA → c.inn.len ≤ c.inn.read) ∧
       (s = STREAM_DATA_OTHER → c.inn.read < c.inn.len)))

theorem reqPassEnd_ends (cfg : Cfg) (c : Conn) (rc : Rc) : ReqEnds cfg c rc (reqPassEnd cfg c rc) := by
  unfold reqPassEnd
  refine ite_cases (P := ReqEnds cfg c rc) (fun hd => ?_) fun hd => ?_
  · have hd' : rc = .data ∨ rc = .dataBuffer := by simpa using hd
    generalize hr : reqReceiverSend false c = r
    have e3 : r.1 = (reqReceiverSend false c).1 := by rw [hr]
    obtain ⟨c3, rc3⟩ := r
    refine ite_cases (P := ReqEnds cfg c rc) (fun _ => ?_)
      fun _ => ⟨c3, c3.inn, _, .inr e3, .inl rfl, .inr (.inl rfl), rfl, .inl ⟨hd', e3, .inl rfl⟩⟩
    cases hb : c3.inn.buffer cfg.fieldLimitHard true with
    | none => exact ⟨c3, c3.inn, _, .inr e3, .inl rfl, .inl rfl, rfl, .inl ⟨hd', e3, .inr rfl⟩⟩
    | some d => exact ⟨c3, d, _, .inr e3, .inr hb, .inr (.inl rfl), rfl, .inl ⟨hd', e3, .inl rfl⟩⟩
  · have hn : rc ≠ .data ∧ rc ≠ .dataBuffer := by
      constructor <;> (intro e; subst e; exact hd (by decide))
    have no {s : Nat} {P : Prop} (h : s ≠ STREAM_DATA_OTHER ∧ s ≠ STREAM_DATA) :
        (s = STREAM_DATA → P) ∧ (s = STREAM_DATA_OTHER → c.inn.read < c.inn.len) := ⟨fun e => absurd e h.2, fun e => absurd e h.1⟩
    refine ite_cases (P := ReqEnds cfg c rc) (fun _ => ?_) fun _ => ?_
    · exact ite_cases (P := ReqEnds cfg c rc)
        (fun hge => ⟨c, c.inn, _, .inl rfl, .inl rfl, .inr (.inl rfl), rfl,
          .inr ⟨hn.1, hn.2, rfl, rfl, fun _ => hge, fun e => absurd e (by decide)⟩⟩)
        fun hlt => ⟨c, c.inn, _, .inl rfl, .inl rfl, .inr (.inr (.inl rfl)), rfl,
          .inr ⟨hn.1, hn.2, rfl, rfl, fun e => absurd e (by decide), fun _ => Int.not_le.mp hlt⟩⟩
    · exact ite_cases (P := ReqEnds cfg c rc)
        (fun _ => ⟨c, c.inn, _, .inl rfl, .inl rfl, .inr (.inr (.inr rfl)), rfl, .inr ⟨hn.1, hn.2, rfl, rfl, no ⟨by decide, by decide⟩⟩⟩)
        fun _ => ⟨c, c.inn, _, .inl rfl, .inl rfl, .inl rfl, rfl, .inr ⟨hn.1, hn.2, rfl, rfl, no ⟨by decide, by decide⟩⟩⟩

/-- the same for a response data call (STOP is tested before DATA_OTHER there). The status clause also says after which answers: a 101
    switch answers like a callback run, and after STOP / ERROR the call must end with a status other than DATA (`resDriverLoop_pair`,
    Lemmas/TunnelPair.lean) -/
def ResEnds (cfg : Cfg) (c : Conn) (rc : Rc) (r : Conn × Nat) : Prop :=
  ∃ c3 d s, (c3 = c ∨ c3 = (resReceiverSend false c).1) ∧ (d = c3.out ∨ c3.out.buffer cfg.fieldLimitHard false = some d) ∧
    (s = STREAM_ERROR ∨ s = STREAM_DATA ∧ rc ≠ .stop ∧ rc ≠ .error ∨ s = STREAM_DATA_OTHER ∧ rc ≠ .stop ∧ rc ≠ .error ∨
      s = STREAM_STOP ∧ rc = .stop) ∧
    r = ({ c3 with out := { d with status := s } }, s) ∧
    (((rc = .data ∨ rc = .dataBuffer) ∧ c3 = (resReceiverSend false c).1 ∧ (s = STREAM_DATA ∨ s = STREAM_ERROR)) ∨
     (rc ≠ .data ∧ rc ≠ .dataBuffer ∧ c3 = c ∧ d = c.out ∧ (s = STREAM_DATA → c.out.len ≤ c.out.read) ∧
       (s = STREAM_DATA_OTHER → c.out.read < c.out.len)))

theorem resPassEnd_ends (cfg : Cfg) (c : Conn) (rc : Rc) : ResEnds cfg c rc (resPassEnd cfg c rc) := by
  unfold resPassEnd
  refine ite_cases (P := ResEnds cfg c rc) (fun h => ?_) fun h => ?_
  · have hd' : rc = .data ∨ rc = .dataBuffer := by simpa using h
    have hn : rc ≠ .stop ∧ rc ≠ .error := by
      constructor <;> (intro e; subst e; exact absurd h (by decide))
    generalize hr : resReceiverSend false c = r
    have e3 : r.1 = (resReceiverSend false c).1 := by rw [hr]
    obtain ⟨c3, rc3⟩ := r
    refine ite_cases (P := ResEnds cfg c rc) (fun _ => ?_)
      fun _ => ⟨c3, c3.out, _, .inr e3, .inl rfl, .inr (.inl ⟨rfl, hn⟩), rfl, .inl ⟨hd', e3, .inl rfl⟩⟩
    cases hb : c3.out.buffer cfg.fieldLimitHard false with
    | none => exact ⟨c3, c3.out, _, .inr e3, .inl rfl, .inl rfl, rfl, .inl ⟨hd', e3, .inr rfl⟩⟩
    | some d => exact ⟨c3, d, _, .inr e3, .inr hb, .inr (.inl ⟨rfl, hn⟩), rfl, .inl ⟨hd', e3, .inl rfl⟩⟩
  · have hnd : rc ≠ .data ∧ rc ≠ .dataBuffer := by
      constructor <;> (intro e; subst e; exact h (by decide))
    have no {s : Nat} {P : Prop} (h : s ≠ STREAM_DATA_OTHER ∧ s ≠ STREAM_DATA) :
        (s = STREAM_DATA → P) ∧ (s = STREAM_DATA_OTHER → c.out.read < c.out.len) := ⟨fun e => absurd e h.2, fun e => absurd e h.1⟩
    refine ite_cases (P := ResEnds cfg c rc)
      (fun h => ⟨c, c.out, _, .inl rfl, .inl rfl, .inr (.inr (.inr ⟨rfl, eq_of_beq h⟩)), rfl,
        .inr ⟨hnd.1, hnd.2, rfl, rfl, no ⟨by decide, by decide⟩⟩⟩) fun _ => ?_
    refine ite_cases (P := ResEnds cfg c rc) (fun h => ?_)
      fun _ => ⟨c, c.out, _, .inl rfl, .inl rfl, .inl rfl, rfl, .inr ⟨hnd.1, hnd.2, rfl, rfl, no ⟨by decide, by decide⟩⟩⟩
    have hn : rc ≠ .stop ∧ rc ≠ .error := by rw [eq_of_beq h]; exact ⟨by decide, by decide⟩
    exact ite_cases (P := ResEnds cfg c rc)
      (fun hge => ⟨c, c.out, _, .inl rfl, .inl rfl, .inr (.inl ⟨rfl, hn⟩), rfl,
        .inr ⟨hnd.1, hnd.2, rfl, rfl, fun _ => hge, fun e => absurd e (by decide)⟩⟩)
      fun hlt => ⟨c, c.out, _, .inl rfl, .inl rfl, .inr (.inr (.inl ⟨rfl, hn⟩)), rfl,
        .inr ⟨hnd.1, hnd.2, rfl, rfl, fun e => absurd e (by decide), fun _ => Int.not_le.mp hlt⟩⟩

theorem returned_error_elim (P : Prop) (c : Conn) (rc : Nat) (hn : rc ≠ STREAM_ERROR) : (c, rc).2 = STREAM_ERROR → P :=
  fun e => absurd e hn

/-- what the two driver loops have in common: out of fuel the model gives up; a pass is `step`, then `hook`; on OK the loop returns at
    once in tunnel mode (`st` is the direction's stream status) and goes on otherwise; on any other answer the call ends with `fin`,
    of which `E` is known - in particular that the status returned is the status written -/
structure DriverLoop (loop : Nat → Conn → Conn × Nat) (step : Conn → Option R) (hook : Conn → Rc → R) (fin : Conn → Rc → Conn × Nat)
    (st : Conn → Nat) (E : Conn → Rc → Conn × Nat → Prop) : Prop where
  zero : ∀ c, loop 0 c = ({ c with unsupported := true }, STREAM_ERROR)
  succ : ∀ k c, loop (k + 1) c =
    match step c with
    | none => (c, STREAM_CLOSED)
    | some (c, rc) =>
      let (c, rc) := hook c rc
      if rc == .ok then (if st c == STREAM_TUNNEL then (c, STREAM_TUNNEL) else loop k c) else fin c rc
  ends : ∀ c rc, E c rc (fin c rc)
  written : ∀ {c rc r}, E c rc r → st r.1 = r.2

theorem reqDriverLoop_is (cfg : Cfg) (g : Bool) :
    DriverLoop (reqDriverLoop cfg g) (reqPassStep cfg g) reqPassHook (reqPassEnd cfg) (·.inn.status) (ReqEnds cfg) :=
  ⟨fun _ => rfl, reqDriverLoop_succ cfg g, reqPassEnd_ends cfg, fun ⟨_, _, _, _, _, _, e, _⟩ => by rw [e]⟩

theorem resDriverLoop_is (cfg : Cfg) (g : Bool) :
    DriverLoop (resDriverLoop cfg g) (resPassStep cfg g) resPassHook (resPassEnd cfg) (·.out.status) (ResEnds cfg) :=
  ⟨fun _ => rfl, resDriverLoop_succ cfg g, resPassEnd_ends cfg, fun ⟨_, _, _, _, _, _, e, _⟩ => by rw [e]⟩

section
variable {loop : Nat → Conn → Conn × Nat} {step : Conn → Option R} {hook : Conn → Rc → R} {fin : Conn → Rc → Conn × Nat}
  {st : Conn → Nat} {E : Conn → Rc → Conn × Nat → Prop}

theorem DriverLoop.rule (L : DriverLoop loop step hook fin st E) {I : Conn → Prop} {Q : Conn × Nat → Prop}
    (fuel0 : ∀ c, I c → Q ({ c with unsupported := true }, STREAM_ERROR))
    (gapEnd : ∀ c, I c → Q (c, STREAM_CLOSED))
    (pass : ∀ c r, I c → step c = some r →
      ((hook r.1 r.2).2 = .ok → st (hook r.1 r.2).1 = STREAM_TUNNEL → Q ((hook r.1 r.2).1, STREAM_TUNNEL)) ∧
      ((hook r.1 r.2).2 = .ok → st (hook r.1 r.2).1 ≠ STREAM_TUNNEL → I (hook r.1 r.2).1) ∧
      ((hook r.1 r.2).2 ≠ .ok → ∀ r', E (hook r.1 r.2).1 (hook r.1 r.2).2 r' → Q r'))
    (fuel : Nat) (c : Conn) (h : I c) : Q (loop fuel c) := by
  induction fuel generalizing c with
  | zero => rw [L.zero]; exact fuel0 c h
  | succ k ih =>
    rw [L.succ]
    cases hs : step c with
    | none => exact gapEnd c h
    | some r =>
      obtain ⟨p1, p2, p3⟩ := pass c r h hs
      obtain ⟨c1, rc1⟩ := r
      simp only at p1 p2 p3 ⊢
      generalize hook c1 rc1 = r2 at p1 p2 p3 ⊢
      obtain ⟨c2, rc2⟩ := r2
      simp only at p1 p2 p3 ⊢
      refine ite_cases (fun e => ?_) fun ne => ?_
      · have e' : rc2 = .ok := eq_of_beq e
        exact ite_cases (fun t => p1 e' (eq_of_beq t)) fun t => ih c2 (p2 e' (fun x => t (by rw [x]; rfl)))
      · exact p3 (fun x => ne (by rw [x]; rfl)) _ (L.ends c2 rc2)

/-- **ERROR returned => ERROR recorded, or the model gave up - for both directions**: every way the loop ends but running out of fuel
    returns the status it has written, or CLOSED / TUNNEL (per call: `reqData_error_recorded` / `resData_error_recorded`,
    Lemmas/HistorySticky.lean) -/
theorem DriverLoop.error_recorded (L : DriverLoop loop step hook fin st E) (fuel : Nat) (c : Conn) :
    (loop fuel c).2 = STREAM_ERROR → st (loop fuel c).1 = STREAM_ERROR ∨ (loop fuel c).1.unsupported = true :=
  L.rule (I := fun _ => True) (Q := fun r => r.2 = STREAM_ERROR → st r.1 = STREAM_ERROR ∨ r.1.unsupported = true)
    (fun _ _ _ => .inr rfl) (fun _ _ => returned_error_elim _ _ _ (by decide))
    (fun _ _ _ _ => ⟨fun _ _ => returned_error_elim _ _ _ (by decide), fun _ _ => trivial, fun _ _ e h => .inl ((L.written e).trans h)⟩)
    fuel c trivial
end

/-! The states one data call passes through, and what the counted body states may owe in them: not a negative amount (`OwedOK`, for the
    cursor invariants), a positive one (`OwedPos`, for 'DATA means the chunk was consumed'). -/

def OwedOK (c : Conn) : Prop :=
  (c.inState = ReqState.bodyIdentity → 0 ≤ c.inn.bodyDataLeft) ∧ (c.inState = ReqState.bodyChunkedData → 0 ≤ c.inn.chunkedLength)

/-- the states one (non-gap) request data call passes through: the state it starts its loop in, and after every pass that answered HTP_OK
    the state left by the state-change hook -/
inductive CallReach (cfg : Cfg) (c : Conn) : Conn → Prop
  | start : CallReach cfg c c
  | step (c' : Conn) : CallReach cfg c c' → (reqStateFn cfg c').2 = Rc.ok →
      ((reqStateFn cfg c').1.inn.status == STREAM_TUNNEL) = false →
      (reqHandleStateChange (reqStateFn cfg c').1).2 = Rc.ok →
      CallReach cfg c (reqHandleStateChange (reqStateFn cfg c').1).1

theorem CallReach.pass {cfg : Cfg} {c0 c : Conn} (hr : CallReach cfg c0 c) (hok : (reqPass cfg c).2 = .ok)
    (ht : ((reqPass cfg c).1.inn.status == STREAM_TUNNEL) = false) :
    CallReach cfg c0 (reqPass cfg c).1 := by
  unfold reqPass reqPassHook at hok ht ⊢
  split at hok
  · rename_i h1
    split at hok
    · rename_i h2
      rw [if_pos h1, if_pos h2] at ht
      exact absurd (h2.symm.trans ht) (by decide)
    · rename_i h2
      rw [if_pos h1, if_neg h2]
      exact CallReach.step c hr (eq_of_beq h1) (Bool.eq_false_iff.mpr h2) hok
  · rename_i h1
    exact absurd (beq_iff_eq.mpr hok) h1

def OwedPos (c : Conn) : Prop :=
  (c.inState = ReqState.bodyIdentity → 0 < c.inn.bodyDataLeft) ∧ (c.inState = ReqState.bodyChunkedData → 0 < c.inn.chunkedLength)

theorem owedOK_of_pos {c : Conn} (h : OwedPos c) : OwedOK c :=
  ⟨fun e => Int.le_of_lt (h.1 e), fun e => Int.le_of_lt (h.2 e)⟩

def OwedOKO (c : Conn) : Prop :=
  (c.outState = ResState.bodyIdentityClKnown → 0 ≤ c.out.bodyDataLeft) ∧ (c.outState = ResState.bodyChunkedData → 0 ≤ c.out.chunkedLength)

inductive CallReachO (cfg : Cfg) (c : Conn) : Conn → Prop
  | start : CallReachO cfg c c
  | step (c' : Conn) : CallReachO cfg c c' → (resStateFn cfg c').2 = Rc.ok →
      ((resStateFn cfg c').1.out.status == STREAM_TUNNEL) = false →
      (resHandleStateChange (resStateFn cfg c').1).2 = Rc.ok →
      CallReachO cfg c (resHandleStateChange (resStateFn cfg c').1).1

theorem CallReachO.pass {cfg : Cfg} {c0 c : Conn} (hr : CallReachO cfg c0 c) (hok : (resPass cfg c).2 = .ok)
    (ht : ((resPass cfg c).1.out.status == STREAM_TUNNEL) = false) :
    CallReachO cfg c0 (resPass cfg c).1 := by
  unfold resPass resPassHook at hok ht ⊢
  split at hok
  · rename_i h1
    split at hok
    · rename_i h2
      rw [if_pos h1, if_pos h2] at ht
      exact absurd (h2.symm.trans ht) (by decide)
    · rename_i h2
      rw [if_pos h1, if_neg h2]
      exact CallReachO.step c hr (eq_of_beq h1) (Bool.eq_false_iff.mpr h2) hok
  · rename_i h1
    exact absurd (beq_iff_eq.mpr hok) h1

def OwedPosO (c : Conn) : Prop :=
  (c.outState = ResState.bodyIdentityClKnown → 0 < c.out.bodyDataLeft) ∧ (c.outState = ResState.bodyChunkedData → 0 < c.out.chunkedLength)

theorem owedOKO_of_pos {c : Conn} (h : OwedPosO c) : OwedOKO c :=
  ⟨fun e => Int.le_of_lt (h.1 e), fun e => Int.le_of_lt (h.2 e)⟩

end Htp.Conn
