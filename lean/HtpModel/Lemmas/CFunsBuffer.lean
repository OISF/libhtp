/- htp_connp_req_buffer / htp_connp_res_buffer (the functions that set the unconsumed part of the current chunk aside in the line buffer
   in_buf / out_buf and enforce the hard field limit) and htp_connp_req_clear_buffer / htp_connp_res_clear_buffer, as translated in
   HtpModel/Gen/CFuns.lean:
   * C10 about the CODE: a successful call leaves `buf_size + header_len ≤ field_limit_hard` or adds nothing; a call that would exceed the
     limit returns HTP_ERROR and stores nothing (all-or-nothing), also when the allocator fails
   * they compute the hand-written model `Dir.buffer` / `Dir.clearBuffer` (HtpModel/Conn/Req.lean) on the fields of every direction
     record whose cursors lie inside the chunk. -/
import HtpModel.Lemmas.CFunsBase
import HtpModel.Conn.Req
namespace Htp.CFuns
open Htp Htp.CSem Htp.Gen.C Htp.Gen Htp.Conn
set_option linter.unusedSimpArgs false
set_option linter.unusedVariables false

/-- return value and the `connp` fields after the call -/
structure BufOut where
  ret : Int
  buf : List Int
  bufNull : Int
  size : Int
  consume : Int
  read : Int
  deriving Repr, DecidableEq

def reqOut (r : Option (Int × St_htp_connp_req_buffer)) : Option BufOut :=
  r.map fun p => { ret := p.1, buf := p.2.connp_in_buf, bufNull := p.2.connp_in_buf_null, size := p.2.connp_in_buf_size,
                   consume := p.2.connp_in_current_consume_offset, read := p.2.connp_in_current_read_offset }

def resOut (r : Option (Int × St_htp_connp_res_buffer)) : Option BufOut :=
  r.map fun p => { ret := p.1, buf := p.2.connp_out_buf, bufNull := p.2.connp_out_buf_null, size := p.2.connp_out_buf_size,
                   consume := p.2.connp_out_current_consume_offset, read := p.2.connp_out_current_read_offset }

theorem reqOut_some {c : Option (Int × St_htp_connp_req_buffer)} {o : BufOut} (h : reqOut c = some o) :
    ∃ s, c = some (o.ret, s) ∧ s.connp_in_buf = o.buf ∧ s.connp_in_buf_null = o.bufNull ∧ s.connp_in_buf_size = o.size ∧
      s.connp_in_current_consume_offset = o.consume ∧ s.connp_in_current_read_offset = o.read := by
  cases c with
  | none => cases h
  | some p => cases h; exact ⟨p.2, rfl, rfl, rfl, rfl, rfl, rfl⟩

theorem resOut_some {c : Option (Int × St_htp_connp_res_buffer)} {o : BufOut} (h : resOut c = some o) :
    ∃ s, c = some (o.ret, s) ∧ s.connp_out_buf = o.buf ∧ s.connp_out_buf_null = o.bufNull ∧ s.connp_out_buf_size = o.size ∧
      s.connp_out_current_consume_offset = o.consume ∧ s.connp_out_current_read_offset = o.read := by
  cases c with
  | none => cases h
  | some p => cases h; exact ⟨p.2, rfl, rfl, rfl, rfl, rfl, rfl⟩

/-- the paths of the two functions, with the size_t wraps gone (`skip` = the request side's `if (len == 0) return HTP_OK`) -/
def bufPaths (skip : Bool) (cur : Bytes) (dnull : Int) (buf : List Int) (bnull size consume read hlen hnull hard alloc : Int) :
    Option BufOut :=
  if dnull ≠ 0 then some { ret := 1, buf := buf, bufNull := bnull, size := size, consume := consume, read := read }
  else if skip = true ∧ read - consume = 0 then
    some { ret := 1, buf := buf, bufNull := bnull, size := size, consume := consume, read := read }
  else if size + (read - consume) + (if hnull = 0 then hlen else 0) > hard then
    some { ret := -1, buf := buf, bufNull := bnull, size := size, consume := consume, read := read }
  else if bnull ≠ 0 then
    if alloc ≠ 0 then
      (memcpyB (List.replicate (read - consume).toNat 0) 0 cur consume (read - consume)).map fun m =>
        { ret := 1, buf := m, bufNull := 0, size := read - consume, consume := read, read := read }
    else some { ret := -1, buf := [], bufNull := 1, size := size, consume := consume, read := read }
  else
    if alloc ≠ 0 then
      (memcpyB (resizeM buf (size + (read - consume)).toNat) size cur consume (read - consume)).map fun m =>
        { ret := 1, buf := m, bufNull := 0, size := size + (read - consume), consume := read, read := read }
    else some { ret := -1, buf := buf, bufNull := bnull, size := size, consume := consume, read := read }

theorem req_paths (fuel : Nat) (cur : Bytes) (dnull : Int) (buf : List Int) (bnull size consume read hlen hnull hard alloc : Int)
    (hc0 : 0 ≤ consume) (hcr : consume ≤ read) (hr : read < 4611686018427387904)
    (hs0 : 0 ≤ size) (hs : size < 4611686018427387904) (hh0 : 0 ≤ hlen) (hh : hlen < 4611686018427387904) :
    reqOut (htp_connp_req_buffer fuel (connp_in_current_data := cur) (connp_in_current_data_null := dnull) (connp_in_buf := buf)
        (connp_in_buf_null := bnull) (connp_in_buf_size := size) (connp_in_current_consume_offset := consume)
        (connp_in_current_read_offset := read) (connp_in_header_len := hlen) (connp_in_header_null := hnull)
        (connp_in_tx_cfg_field_limit_hard := hard) (alloc_ok := alloc))
      = bufPaths true cur dnull buf bnull size consume read hlen hnull hard alloc := by
  have e1 : u64 (read - consume) = read - consume := u64_id (by omega) (by omega)
  have e2 : u64 (size + (read - consume)) = size + (read - consume) := u64_id (by omega) (by omega)
  have e3 : u64 (size + (read - consume) + hlen) = size + (read - consume) + hlen := u64_id (by omega) (by omega)
  -- once `hnull` is decided the evaluated body is the same tree of tests as `bufPaths` (the allocation is a branch: `seqS_assignS_ite`)
  by_cases h3 : hnull = 0 <;>
    simp [htp_connp_req_buffer, run_outcome, htp_connp_req_buffer_stmt, iteS_bind, retS, assignS, skipS, Option.bind_assoc,
      outcome_bind_ret, bufPaths, reqOut, map_ite, Function.comp_def, e1, e2, e3, h3]

theorem res_paths (fuel : Nat) (cur : Bytes) (dnull : Int) (buf : List Int) (bnull size consume read hlen hnull hard alloc : Int)
    (hc0 : 0 ≤ consume) (hcr : consume ≤ read) (hr : read < 4611686018427387904)
    (hs0 : 0 ≤ size) (hs : size < 4611686018427387904) (hh0 : 0 ≤ hlen) (hh : hlen < 4611686018427387904) :
    resOut (htp_connp_res_buffer fuel (connp_out_current_data := cur) (connp_out_current_data_null := dnull) (connp_out_buf := buf)
        (connp_out_buf_null := bnull) (connp_out_buf_size := size) (connp_out_current_consume_offset := consume)
        (connp_out_current_read_offset := read) (connp_out_header_len := hlen) (connp_out_header_null := hnull)
        (connp_out_tx_cfg_field_limit_hard := hard) (alloc_ok := alloc))
      = bufPaths false cur dnull buf bnull size consume read hlen hnull hard alloc := by
  have e1 : u64 (read - consume) = read - consume := u64_id (by omega) (by omega)
  have e2 : u64 (size + (read - consume)) = size + (read - consume) := u64_id (by omega) (by omega)
  have e3 : u64 (size + (read - consume) + hlen) = size + (read - consume) + hlen := u64_id (by omega) (by omega)
  by_cases h3 : hnull = 0 <;>
    simp [htp_connp_res_buffer, run_outcome, htp_connp_res_buffer_stmt, iteS_bind, retS, assignS, skipS, Option.bind_assoc,
      outcome_bind_ret, bufPaths, resOut, map_ite, Function.comp_def, e1, e2, e3, h3]

theorem memcpyB_length {dst : List Int} {doff : Int} {src : Bytes} {soff n : Int} {m : List Int}
    (h : memcpyB dst doff src soff n = some m) : m.length = dst.length := by
  unfold memcpyB at h
  generalize doff.toNat = a, soff.toNat = b, n.toNat = c at h
  split at h
  · cases h
  · split at h
    · cases h
      simp only [List.length_append, List.length_take, List.length_map, List.length_drop]
      omega
    · cases h

theorem resizeM_length (m : List Int) (n : Nat) : (resizeM m n).length = n := by
  unfold resizeM
  simp only [List.length_append, List.length_take, List.length_replicate]
  omega

theorem bufPaths_c10 (skip : Bool) (cur : Bytes) (dnull : Int) (buf : List Int) (bnull size consume read hlen hnull hard alloc : Int)
    (hcr : consume ≤ read) (hs0 : 0 ≤ size) (o : BufOut)
    (h : bufPaths skip cur dnull buf bnull size consume read hlen hnull hard alloc = some o) :
    (o.ret = 1 ∨ o.ret = -1) ∧ o.read = read ∧
    (o.ret = 1 →
      (o.size + (if hnull = 0 then hlen else 0) ≤ hard ∧ o.size ≤ size + (read - consume) ∧ (o.buf.length : Int) = o.size ∧
        o.bufNull = 0 ∧ o.consume = read) ∨
      (o.buf = buf ∧ o.bufNull = bnull ∧ o.size = size ∧ o.consume = consume ∧ (dnull ≠ 0 ∨ read - consume = 0))) ∧
    (o.ret = -1 →
      o.size = size ∧ o.consume = consume ∧ (o.bufNull ≠ 0 ↔ bnull ≠ 0) ∧ (bnull = 0 → o.buf = buf) ∧
      (alloc ≠ 0 → size + (read - consume) + (if hnull = 0 then hlen else 0) > hard)) := by
  unfold bufPaths at h
  generalize (if hnull = 0 then hlen else 0) = hdr at h ⊢
  by_cases hd : dnull ≠ 0
  · rw [if_pos hd] at h; cases h; simp; omega
  rw [if_neg hd] at h
  by_cases hsk : skip = true ∧ read - consume = 0
  · rw [if_pos hsk] at h; cases h; simp; omega
  rw [if_neg hsk] at h
  by_cases hlim : size + (read - consume) + hdr > hard
  · rw [if_pos hlim] at h; cases h; simp; omega
  rw [if_neg hlim] at h
  by_cases ha : alloc ≠ 0
  · simp only [if_pos ha] at h
    -- either way `len` bytes are copied into a block of `sz ≤ size + len` elements
    obtain ⟨dst, off, sz, hl, h0, h1, ho⟩ : ∃ dst off sz, dst.length = sz.toNat ∧ 0 ≤ sz ∧ sz ≤ size + (read - consume) ∧
        (memcpyB dst off cur consume (read - consume)).map (fun m =>
          ({ ret := 1, buf := m, bufNull := 0, size := sz, consume := read, read := read } : BufOut)) = some o := by
      split at h
      · exact ⟨_, _, _, by simp, by omega, by omega, h⟩
      · exact ⟨_, _, _, resizeM_length _ _, by omega, by omega, h⟩
    obtain ⟨m, hm, rfl⟩ := Option.map_eq_some_iff.1 ho
    have := memcpyB_length hm
    exact ⟨Or.inl rfl, rfl, fun _ => Or.inl ⟨by show sz + hdr ≤ hard; omega, h1, by show (m.length : Int) = sz; omega, rfl, rfl⟩,
      fun h => by cases h⟩
  · simp only [if_neg ha] at h
    split at h <;> cases h <;> simp <;> omega
theorem bufPaths_over_limit (skip : Bool) (cur : Bytes) (dnull : Int) (buf : List Int)
    (bnull size consume read hlen hnull hard alloc : Int) (hd : dnull = 0) (hne : skip = true → consume < read)
    (hover : size + (read - consume) + (if hnull = 0 then hlen else 0) > hard) :
    bufPaths skip cur dnull buf bnull size consume read hlen hnull hard alloc
      = some { ret := -1, buf := buf, bufNull := bnull, size := size, consume := consume, read := read } := by
  unfold bufPaths
  rw [if_neg (by omega), if_neg (fun h => by have := hne h.1; omega), if_pos hover]

/-- **C10 about the translated `htp_connp_req_buffer`** (all field values, allocator succeeding or failing). HTP_OK (1): either the
    bytes now set aside obey `in_buf_size + in_header_len ≤ field_limit_hard` (`in_buf` has exactly `in_buf_size` elements, the chunk
    is consumed up to the read offset), or nothing was added and no field changed (NULL chunk, `len == 0`). HTP_ERROR (-1): nothing
    was stored and, unless the allocator failed, the sum was over the limit. -/
theorem htp_connp_req_buffer_c10 (fuel : Nat) (cur : Bytes) (dnull : Int) (buf : List Int)
    (bnull size consume read hlen hnull hard alloc : Int)
    (hc0 : 0 ≤ consume) (hcr : consume ≤ read) (hr : read < 4611686018427387904)
    (hs0 : 0 ≤ size) (hs : size < 4611686018427387904) (hh0 : 0 ≤ hlen) (hh : hlen < 4611686018427387904)
    (r : Int) (s : St_htp_connp_req_buffer)
    (h : htp_connp_req_buffer fuel (connp_in_current_data := cur) (connp_in_current_data_null := dnull) (connp_in_buf := buf)
        (connp_in_buf_null := bnull) (connp_in_buf_size := size) (connp_in_current_consume_offset := consume)
        (connp_in_current_read_offset := read) (connp_in_header_len := hlen) (connp_in_header_null := hnull)
        (connp_in_tx_cfg_field_limit_hard := hard) (alloc_ok := alloc) = some (r, s)) :
    (r = 1 ∨ r = -1) ∧ s.connp_in_current_read_offset = read ∧
    (r = 1 →
      (s.connp_in_buf_size + (if hnull = 0 then hlen else 0) ≤ hard ∧ s.connp_in_buf_size ≤ size + (read - consume) ∧
        (s.connp_in_buf.length : Int) = s.connp_in_buf_size ∧ s.connp_in_buf_null = 0 ∧
        s.connp_in_current_consume_offset = read) ∨
      (s.connp_in_buf = buf ∧ s.connp_in_buf_null = bnull ∧ s.connp_in_buf_size = size ∧
        s.connp_in_current_consume_offset = consume ∧ (dnull ≠ 0 ∨ read - consume = 0))) ∧
    (r = -1 →
      s.connp_in_buf_size = size ∧ s.connp_in_current_consume_offset = consume ∧
      (s.connp_in_buf_null ≠ 0 ↔ bnull ≠ 0) ∧ (bnull = 0 → s.connp_in_buf = buf) ∧
      (alloc ≠ 0 → size + (read - consume) + (if hnull = 0 then hlen else 0) > hard)) := by
  have hp := req_paths fuel cur dnull buf bnull size consume read hlen hnull hard alloc hc0 hcr hr hs0 hs hh0 hh
  rw [h] at hp
  exact bufPaths_c10 _ cur dnull buf bnull size consume read hlen hnull hard alloc hcr hs0 _ hp.symm

/-- all-or-nothing, the refusing half (whatever the allocator does); `hne`: the request side returns HTP_OK first when `len == 0` -/
theorem htp_connp_req_buffer_over_limit (fuel : Nat) (cur : Bytes) (dnull : Int) (buf : List Int)
    (bnull size consume read hlen hnull hard alloc : Int)
    (hc0 : 0 ≤ consume) (hcr : consume ≤ read) (hr : read < 4611686018427387904)
    (hs0 : 0 ≤ size) (hs : size < 4611686018427387904) (hh0 : 0 ≤ hlen) (hh : hlen < 4611686018427387904)
    (hd : dnull = 0) (hne : consume < read)
    (hover : size + (read - consume) + (if hnull = 0 then hlen else 0) > hard) :
    ∃ s, htp_connp_req_buffer fuel (connp_in_current_data := cur) (connp_in_current_data_null := dnull) (connp_in_buf := buf)
        (connp_in_buf_null := bnull) (connp_in_buf_size := size) (connp_in_current_consume_offset := consume)
        (connp_in_current_read_offset := read) (connp_in_header_len := hlen) (connp_in_header_null := hnull)
        (connp_in_tx_cfg_field_limit_hard := hard) (alloc_ok := alloc) = some (-1, s) ∧
      s.connp_in_buf = buf ∧ s.connp_in_buf_null = bnull ∧ s.connp_in_buf_size = size ∧
      s.connp_in_current_consume_offset = consume ∧ s.connp_in_current_read_offset = read := by
  have hp := req_paths fuel cur dnull buf bnull size consume read hlen hnull hard alloc hc0 hcr hr hs0 hs hh0 hh
  rw [bufPaths_over_limit _ _ _ _ _ _ _ _ _ _ _ _ hd (fun _ => hne) hover] at hp
  exact reqOut_some hp

theorem htp_connp_res_buffer_c10 (fuel : Nat) (cur : Bytes) (dnull : Int) (buf : List Int)
    (bnull size consume read hlen hnull hard alloc : Int)
    (hc0 : 0 ≤ consume) (hcr : consume ≤ read) (hr : read < 4611686018427387904)
    (hs0 : 0 ≤ size) (hs : size < 4611686018427387904) (hh0 : 0 ≤ hlen) (hh : hlen < 4611686018427387904)
    (r : Int) (s : St_htp_connp_res_buffer)
    (h : htp_connp_res_buffer fuel (connp_out_current_data := cur) (connp_out_current_data_null := dnull) (connp_out_buf := buf)
        (connp_out_buf_null := bnull) (connp_out_buf_size := size) (connp_out_current_consume_offset := consume)
        (connp_out_current_read_offset := read) (connp_out_header_len := hlen) (connp_out_header_null := hnull)
        (connp_out_tx_cfg_field_limit_hard := hard) (alloc_ok := alloc) = some (r, s)) :
    (r = 1 ∨ r = -1) ∧ s.connp_out_current_read_offset = read ∧
    (r = 1 →
      (s.connp_out_buf_size + (if hnull = 0 then hlen else 0) ≤ hard ∧ s.connp_out_buf_size ≤ size + (read - consume) ∧
        (s.connp_out_buf.length : Int) = s.connp_out_buf_size ∧ s.connp_out_buf_null = 0 ∧
        s.connp_out_current_consume_offset = read) ∨
      (s.connp_out_buf = buf ∧ s.connp_out_buf_null = bnull ∧ s.connp_out_buf_size = size ∧
        s.connp_out_current_consume_offset = consume ∧ (dnull ≠ 0 ∨ read - consume = 0))) ∧
    (r = -1 →
      s.connp_out_buf_size = size ∧ s.connp_out_current_consume_offset = consume ∧
      (s.connp_out_buf_null ≠ 0 ↔ bnull ≠ 0) ∧ (bnull = 0 → s.connp_out_buf = buf) ∧
      (alloc ≠ 0 → size + (read - consume) + (if hnull = 0 then hlen else 0) > hard)) := by
  have hp := res_paths fuel cur dnull buf bnull size consume read hlen hnull hard alloc hc0 hcr hr hs0 hs hh0 hh
  rw [h] at hp
  exact bufPaths_c10 _ cur dnull buf bnull size consume read hlen hnull hard alloc hcr hs0 _ hp.symm

theorem htp_connp_res_buffer_over_limit (fuel : Nat) (cur : Bytes) (dnull : Int) (buf : List Int)
    (bnull size consume read hlen hnull hard alloc : Int)
    (hc0 : 0 ≤ consume) (hcr : consume ≤ read) (hr : read < 4611686018427387904)
    (hs0 : 0 ≤ size) (hs : size < 4611686018427387904) (hh0 : 0 ≤ hlen) (hh : hlen < 4611686018427387904)
    (hd : dnull = 0)
    (hover : size + (read - consume) + (if hnull = 0 then hlen else 0) > hard) :
    ∃ s, htp_connp_res_buffer fuel (connp_out_current_data := cur) (connp_out_current_data_null := dnull) (connp_out_buf := buf)
        (connp_out_buf_null := bnull) (connp_out_buf_size := size) (connp_out_current_consume_offset := consume)
        (connp_out_current_read_offset := read) (connp_out_header_len := hlen) (connp_out_header_null := hnull)
        (connp_out_tx_cfg_field_limit_hard := hard) (alloc_ok := alloc) = some (-1, s) ∧
      s.connp_out_buf = buf ∧ s.connp_out_buf_null = bnull ∧ s.connp_out_buf_size = size ∧
      s.connp_out_current_consume_offset = consume ∧ s.connp_out_current_read_offset = read := by
  have hp := res_paths fuel cur dnull buf bnull size consume read hlen hnull hard alloc hc0 hcr hr hs0 hs hh0 hh
  rw [bufPaths_over_limit _ _ _ _ _ _ _ _ _ _ _ _ hd (fun h => by cases h) hover] at hp
  exact resOut_some hp

/-- `realloc(in_buf, size + len)` + `memcpy(in_buf + size, data + consume, len)`: the piece is appended -/
theorem memcpyB_append (b cur : Bytes) (consume read : Int) (h0 : 0 ≤ consume) (h1 : consume ≤ read) (h2 : read ≤ cur.length) :
    memcpyB (resizeM (memOf b) ((b.length : Int) + (read - consume)).toNat) (b.length : Int) cur consume (read - consume)
      = some (memOf (b ++ (cur.drop consume.toNat).take (read - consume).toNat)) := by
  obtain ⟨n, hn⟩ : ∃ n : Nat, read - consume = (n : Int) := ⟨(read - consume).toNat, by omega⟩
  rw [hn]
  have e : ((b.length : Int) + (n : Int)).toNat = b.length + n := by omega
  rw [e]
  have hr : resizeM (memOf b) (b.length + n) = memOf b ++ List.replicate n 0 := by
    unfold resizeM
    rw [List.take_of_length_le (by simp [memOf])]
    congr 2
    simp [memOf]
  rw [hr]
  unfold memcpyB
  rw [if_neg (by omega)]
  have hl : (memOf b).length = b.length := by simp [memOf]
  have hc : consume.toNat + (n : Int).toNat ≤ cur.length ∧
      (b.length : Int).toNat + (n : Int).toNat ≤ (memOf b ++ List.replicate n (0 : Int)).length := by
    refine ⟨by omega, by simp [hl]⟩
  rw [if_pos hc]
  simp only [Int.toNat_natCast]
  have hd : List.drop (b.length + n) (memOf b ++ List.replicate n (0 : Int)) = [] :=
    List.drop_of_length_le (by simp [hl])
  rw [List.take_left' hl, hd]
  simp [memOf]

/-- `malloc(len)` + `memcpy(in_buf, data + consume, len)`: the new buffer is the piece of the chunk -/
theorem memcpyB_fresh (cur : Bytes) (consume read : Int) (h0 : 0 ≤ consume) (h1 : consume ≤ read) (h2 : read ≤ cur.length) :
    memcpyB (List.replicate (read - consume).toNat 0) 0 cur consume (read - consume)
      = some (memOf ((cur.drop consume.toNat).take (read - consume).toNat)) := by
  simpa [memOf, resizeM] using memcpyB_append [] cur consume read h0 h1 h2

/-- how a direction record is handed to the translated functions -/
def encBuf (b : Option Bytes) : List Int := match b with | some b => memOf b | none => []

/-- the fields after a call, read off the model's record -/
def outOfDir (ret : Int) (d : Dir) : BufOut :=
  { ret := ret, buf := encBuf d.buf, bufNull := if d.buf.isNone then 1 else 0, size := ((d.buf.map (·.length)).getD 0 : Nat),
    consume := d.consume, read := d.read }

theorem bufPaths_model (skip : Bool) (d : Dir) (hard : Nat)
    (hc0 : 0 ≤ d.consume) (hcr : d.consume ≤ d.read) (hrl : d.read ≤ d.cur.length) (hl : d.cur.length < 4611686018427387904) :
    bufPaths skip d.cur (if d.curNull then 1 else 0) (encBuf d.buf) (if d.buf.isNone then 1 else 0)
        ((d.buf.map (·.length)).getD 0 : Nat) d.consume d.read ((d.header.map (·.length)).getD 0 : Nat)
        (if d.header.isNone then 1 else 0) hard 1
      = some (match d.buffer hard skip with
              | none => outOfDir (-1) d
              | some d' => outOfDir 1 d') := by
  have hsz : sizeOfInt (d.read - d.consume) = (d.read - d.consume).toNat := by
    unfold sizeOfInt; congr 1; omega
  unfold bufPaths Dir.buffer
  cases hn : d.curNull
  · simp only [Bool.false_eq_true, if_false, ne_eq, not_true_eq_false, hsz]
    by_cases hsk : skip = true ∧ d.read - d.consume = 0
    · have : (skip && (d.read - d.consume).toNat == 0) = true := by
        simp only [Bool.and_eq_true, beq_iff_eq]; exact ⟨hsk.1, by omega⟩
      rw [if_pos hsk]
      simp only [this, if_true]
      rfl
    · have : (skip && (d.read - d.consume).toNat == 0) = false := by
        cases skip
        · rfl
        · simp only [Bool.true_and, beq_eq_false_iff_ne]; simp only [true_and] at hsk; omega
      rw [if_neg hsk]
      simp only [this, Bool.false_eq_true, if_false]
      have hh : (if (if d.header.isNone = true then (1 : Int) else 0) = 0 then (((d.header.map (·.length)).getD 0 : Nat) : Int) else 0)
          = (((d.header.map (·.length)).getD 0 : Nat) : Int) := by
        cases d.header <;> simp
      rw [hh]
      by_cases hlim : (d.buf.map (·.length)).getD 0 + (d.read - d.consume).toNat + (d.header.map (·.length)).getD 0 > hard
      · rw [if_pos (by omega)]
        simp only [hlim, if_true]
        rfl
      · rw [if_neg (by omega)]
        simp only [hlim, if_false]
        have hpl : ((d.cur.drop d.consume.toNat).take (d.read - d.consume).toNat).length = (d.read - d.consume).toNat := by
          rw [List.length_take, List.length_drop]; omega
        cases hb : d.buf with
        | none =>
          simp only [Option.isNone_none, if_true, ne_eq, not_false_eq_true, encBuf, Option.map_none, Option.getD_none]
          rw [if_pos (by decide), if_pos (by decide), memcpyB_fresh _ _ _ hc0 hcr hrl]
          simp only [Option.map_some, outOfDir, sliceCur, encBuf, Option.isNone_some, Option.map_some, Option.getD_some,
            List.nil_append, Bool.false_eq_true, if_false]
          congr 2
          rw [hpl]; omega
        | some b =>
          simp only [Option.isNone_some, Bool.false_eq_true, if_false, ne_eq, not_true_eq_false, encBuf, Option.map_some,
            Option.getD_some]
          rw [if_pos (by decide), memcpyB_append _ _ _ _ hc0 hcr hrl]
          simp only [Option.map_some, outOfDir, sliceCur, encBuf, Option.isNone_some, Option.map_some, Option.getD_some,
            Bool.false_eq_true, if_false]
          congr 2
          rw [List.length_append, hpl]; omega
  · simp only [if_true]
    rw [if_pos (by decide)]
    rfl

theorem optLen_lt (o : Option Bytes) (h : ∀ b, o = some b → b.length < 4611686018427387904) :
    (((o.map (·.length)).getD 0 : Nat) : Int) < 4611686018427387904 := by
  cases o with
  | none => simp
  | some b => have := h b rfl; simp only [Option.map_some, Option.getD_some]; omega

/-- the result being `some` says every memcpy stays inside its block -/
theorem htp_connp_req_buffer_eq (fuel : Nat) (d : Dir) (hard : Nat)
    (hc0 : 0 ≤ d.consume) (hcr : d.consume ≤ d.read) (hrl : d.read ≤ d.cur.length) (hl : d.cur.length < 4611686018427387904)
    (hbl : ∀ b, d.buf = some b → b.length < 4611686018427387904)
    (hhl : ∀ h, d.header = some h → h.length < 4611686018427387904) :
    ∃ s, htp_connp_req_buffer fuel (connp_in_current_data := d.cur) (connp_in_current_data_null := if d.curNull then 1 else 0)
        (connp_in_buf := match d.buf with | some b => memOf b | none => [])
        (connp_in_buf_null := if d.buf.isNone then 1 else 0) (connp_in_buf_size := ((d.buf.map (·.length)).getD 0 : Nat))
        (connp_in_current_consume_offset := d.consume) (connp_in_current_read_offset := d.read)
        (connp_in_header_len := ((d.header.map (·.length)).getD 0 : Nat)) (connp_in_header_null := if d.header.isNone then 1 else 0)
        (connp_in_tx_cfg_field_limit_hard := hard) (alloc_ok := 1)
      = some ((match d.buffer hard true with | none => -1 | some _ => 1), s) ∧
      (match d.buffer hard true with
       | none => s.connp_in_buf = (match d.buf with | some b => memOf b | none => []) ∧
        s.connp_in_buf_null = (if d.buf.isNone then 1 else 0) ∧
        s.connp_in_buf_size = ((d.buf.map (·.length)).getD 0 : Nat) ∧
        s.connp_in_current_consume_offset = d.consume ∧ s.connp_in_current_read_offset = d.read
       | some d' => s.connp_in_buf = (match d'.buf with | some b => memOf b | none => []) ∧
        s.connp_in_buf_null = (if d'.buf.isNone then 1 else 0) ∧
        s.connp_in_buf_size = ((d'.buf.map (·.length)).getD 0 : Nat) ∧
        s.connp_in_current_consume_offset = d'.consume ∧ s.connp_in_current_read_offset = d'.read) := by
  have hp := req_paths fuel d.cur (if d.curNull then 1 else 0) (encBuf d.buf) (if d.buf.isNone then 1 else 0)
    ((d.buf.map (·.length)).getD 0 : Nat) d.consume d.read ((d.header.map (·.length)).getD 0 : Nat)
    (if d.header.isNone then 1 else 0) hard 1
  replace hp := hp hc0 hcr (by omega) (Int.natCast_nonneg _) (optLen_lt _ hbl) (Int.natCast_nonneg _) (optLen_lt _ hhl)
  rw [bufPaths_model true d hard hc0 hcr hrl hl] at hp
  obtain ⟨s, hs⟩ := reqOut_some hp
  refine ⟨s, ?_⟩
  cases hm : d.buffer hard true <;> rw [hm] at hs <;> exact hs

theorem htp_connp_res_buffer_eq (fuel : Nat) (d : Dir) (hard : Nat)
    (hc0 : 0 ≤ d.consume) (hcr : d.consume ≤ d.read) (hrl : d.read ≤ d.cur.length) (hl : d.cur.length < 4611686018427387904)
    (hbl : ∀ b, d.buf = some b → b.length < 4611686018427387904)
    (hhl : ∀ h, d.header = some h → h.length < 4611686018427387904) :
    ∃ s, htp_connp_res_buffer fuel (connp_out_current_data := d.cur) (connp_out_current_data_null := if d.curNull then 1 else 0)
        (connp_out_buf := match d.buf with | some b => memOf b | none => [])
        (connp_out_buf_null := if d.buf.isNone then 1 else 0) (connp_out_buf_size := ((d.buf.map (·.length)).getD 0 : Nat))
        (connp_out_current_consume_offset := d.consume) (connp_out_current_read_offset := d.read)
        (connp_out_header_len := ((d.header.map (·.length)).getD 0 : Nat)) (connp_out_header_null := if d.header.isNone then 1 else 0)
        (connp_out_tx_cfg_field_limit_hard := hard) (alloc_ok := 1)
      = some ((match d.buffer hard false with | none => -1 | some _ => 1), s) ∧
      (match d.buffer hard false with
       | none => s.connp_out_buf = (match d.buf with | some b => memOf b | none => []) ∧
        s.connp_out_buf_null = (if d.buf.isNone then 1 else 0) ∧
        s.connp_out_buf_size = ((d.buf.map (·.length)).getD 0 : Nat) ∧
        s.connp_out_current_consume_offset = d.consume ∧ s.connp_out_current_read_offset = d.read
       | some d' => s.connp_out_buf = (match d'.buf with | some b => memOf b | none => []) ∧
        s.connp_out_buf_null = (if d'.buf.isNone then 1 else 0) ∧
        s.connp_out_buf_size = ((d'.buf.map (·.length)).getD 0 : Nat) ∧
        s.connp_out_current_consume_offset = d'.consume ∧ s.connp_out_current_read_offset = d'.read) := by
  have hp := res_paths fuel d.cur (if d.curNull then 1 else 0) (encBuf d.buf) (if d.buf.isNone then 1 else 0)
    ((d.buf.map (·.length)).getD 0 : Nat) d.consume d.read ((d.header.map (·.length)).getD 0 : Nat)
    (if d.header.isNone then 1 else 0) hard 1
  replace hp := hp hc0 hcr (by omega) (Int.natCast_nonneg _) (optLen_lt _ hbl) (Int.natCast_nonneg _) (optLen_lt _ hhl)
  rw [bufPaths_model false d hard hc0 hcr hrl hl] at hp
  obtain ⟨s, hs⟩ := resOut_some hp
  refine ⟨s, ?_⟩
  cases hm : d.buffer hard false <;> rw [hm] at hs <;> exact hs

/-- `htp_connp_req_clear_buffer` on all field values: `in_buf == NULL → in_buf_size == 0` (what `htp_connp_req_buffer` relies on when it
    adds `in_buf_size` without testing the pointer) holds after every call once it held before -/
theorem htp_connp_req_clear_buffer_raw (fuel : Nat) (buf : List Int) (bnull size consume read : Int) :
    ∃ s, htp_connp_req_clear_buffer fuel (connp_in_buf := buf) (connp_in_buf_null := bnull) (connp_in_buf_size := size)
        (connp_in_current_consume_offset := consume) (connp_in_current_read_offset := read) = some (0, s) ∧
      s.connp_in_current_consume_offset = read ∧ s.connp_in_current_read_offset = read ∧ s.connp_in_buf_null ≠ 0 ∧
      (bnull = 0 → s.connp_in_buf = [] ∧ s.connp_in_buf_size = 0 ∧ s.connp_in_buf_null = 1) ∧
      (bnull ≠ 0 → s.connp_in_buf = buf ∧ s.connp_in_buf_size = size ∧ s.connp_in_buf_null = bnull) := by
  by_cases h : bnull = 0
  · simp [htp_connp_req_clear_buffer, htp_connp_req_clear_buffer_stmt, run, seqS, iteS, retS, skipS, assignS, h]
  · simp [htp_connp_req_clear_buffer, htp_connp_req_clear_buffer_stmt, run, seqS, iteS, retS, skipS, assignS, h]

theorem htp_connp_req_clear_buffer_eq (fuel : Nat) (d : Dir) :
    ∃ s, htp_connp_req_clear_buffer fuel (connp_in_buf := match d.buf with | some b => memOf b | none => [])
        (connp_in_buf_null := if d.buf.isNone then 1 else 0) (connp_in_buf_size := ((d.buf.map (·.length)).getD 0 : Nat))
        (connp_in_current_consume_offset := d.consume) (connp_in_current_read_offset := d.read) = some (0, s) ∧
      s.connp_in_buf = (match d.clearBuffer.buf with | some b => memOf b | none => []) ∧
      s.connp_in_buf_null = (if d.clearBuffer.buf.isNone then 1 else 0) ∧
      s.connp_in_buf_size = ((d.clearBuffer.buf.map (·.length)).getD 0 : Nat) ∧
      s.connp_in_current_consume_offset = d.clearBuffer.consume ∧ s.connp_in_current_read_offset = d.clearBuffer.read := by
  cases hb : d.buf with
  | none => simp [htp_connp_req_clear_buffer, htp_connp_req_clear_buffer_stmt, run, seqS, iteS, retS, skipS, assignS, Dir.clearBuffer]
  | some b => simp [htp_connp_req_clear_buffer, htp_connp_req_clear_buffer_stmt, run, seqS, iteS, retS, skipS, assignS, Dir.clearBuffer]

theorem htp_connp_res_clear_buffer_raw (fuel : Nat) (buf : List Int) (bnull size consume read : Int) :
    ∃ s, htp_connp_res_clear_buffer fuel (connp_out_buf := buf) (connp_out_buf_null := bnull) (connp_out_buf_size := size)
        (connp_out_current_consume_offset := consume) (connp_out_current_read_offset := read) = some (0, s) ∧
      s.connp_out_current_consume_offset = read ∧ s.connp_out_current_read_offset = read ∧ s.connp_out_buf_null ≠ 0 ∧
      (bnull = 0 → s.connp_out_buf = [] ∧ s.connp_out_buf_size = 0 ∧ s.connp_out_buf_null = 1) ∧
      (bnull ≠ 0 → s.connp_out_buf = buf ∧ s.connp_out_buf_size = size ∧ s.connp_out_buf_null = bnull) := by
  by_cases h : bnull = 0
  · simp [htp_connp_res_clear_buffer, htp_connp_res_clear_buffer_stmt, run, seqS, iteS, retS, skipS, assignS, h]
  · simp [htp_connp_res_clear_buffer, htp_connp_res_clear_buffer_stmt, run, seqS, iteS, retS, skipS, assignS, h]

theorem htp_connp_res_clear_buffer_eq (fuel : Nat) (d : Dir) :
    ∃ s, htp_connp_res_clear_buffer fuel (connp_out_buf := match d.buf with | some b => memOf b | none => [])
        (connp_out_buf_null := if d.buf.isNone then 1 else 0) (connp_out_buf_size := ((d.buf.map (·.length)).getD 0 : Nat))
        (connp_out_current_consume_offset := d.consume) (connp_out_current_read_offset := d.read) = some (0, s) ∧
      s.connp_out_buf = (match d.clearBuffer.buf with | some b => memOf b | none => []) ∧
      s.connp_out_buf_null = (if d.clearBuffer.buf.isNone then 1 else 0) ∧
      s.connp_out_buf_size = ((d.clearBuffer.buf.map (·.length)).getD 0 : Nat) ∧
      s.connp_out_current_consume_offset = d.clearBuffer.consume ∧ s.connp_out_current_read_offset = d.clearBuffer.read := by
  cases hb : d.buf with
  | none => simp [htp_connp_res_clear_buffer, htp_connp_res_clear_buffer_stmt, run, seqS, iteS, retS, skipS, assignS, Dir.clearBuffer]
  | some b => simp [htp_connp_res_clear_buffer, htp_connp_res_clear_buffer_stmt, run, seqS, iteS, retS, skipS, assignS, Dir.clearBuffer]

theorem htp_connp_req_buffer_error_iff (fuel : Nat) (d : Dir) (hard : Nat)
    (hc0 : 0 ≤ d.consume) (hcr : d.consume ≤ d.read) (hrl : d.read ≤ d.cur.length) (hl : d.cur.length < 4611686018427387904)
    (hbl : ∀ b, d.buf = some b → b.length < 4611686018427387904)
    (hhl : ∀ h, d.header = some h → h.length < 4611686018427387904) :
    ((htp_connp_req_buffer fuel (connp_in_current_data := d.cur) (connp_in_current_data_null := if d.curNull then 1 else 0)
        (connp_in_buf := match d.buf with | some b => memOf b | none => [])
        (connp_in_buf_null := if d.buf.isNone then 1 else 0) (connp_in_buf_size := ((d.buf.map (·.length)).getD 0 : Nat))
        (connp_in_current_consume_offset := d.consume) (connp_in_current_read_offset := d.read)
        (connp_in_header_len := ((d.header.map (·.length)).getD 0 : Nat)) (connp_in_header_null := if d.header.isNone then 1 else 0)
        (connp_in_tx_cfg_field_limit_hard := hard) (alloc_ok := 1)).map (·.1) = some (-1)) ↔ d.buffer hard true = none := by
  obtain ⟨s, hs, _⟩ := htp_connp_req_buffer_eq fuel d hard hc0 hcr hrl hl hbl hhl
  rw [hs]
  cases d.buffer hard true <;> simp

theorem htp_connp_res_buffer_error_iff (fuel : Nat) (d : Dir) (hard : Nat)
    (hc0 : 0 ≤ d.consume) (hcr : d.consume ≤ d.read) (hrl : d.read ≤ d.cur.length) (hl : d.cur.length < 4611686018427387904)
    (hbl : ∀ b, d.buf = some b → b.length < 4611686018427387904)
    (hhl : ∀ h, d.header = some h → h.length < 4611686018427387904) :
    ((htp_connp_res_buffer fuel (connp_out_current_data := d.cur) (connp_out_current_data_null := if d.curNull then 1 else 0)
        (connp_out_buf := match d.buf with | some b => memOf b | none => [])
        (connp_out_buf_null := if d.buf.isNone then 1 else 0) (connp_out_buf_size := ((d.buf.map (·.length)).getD 0 : Nat))
        (connp_out_current_consume_offset := d.consume) (connp_out_current_read_offset := d.read)
        (connp_out_header_len := ((d.header.map (·.length)).getD 0 : Nat)) (connp_out_header_null := if d.header.isNone then 1 else 0)
        (connp_out_tx_cfg_field_limit_hard := hard) (alloc_ok := 1)).map (·.1) = some (-1)) ↔ d.buffer hard false = none := by
  obtain ⟨s, hs, _⟩ := htp_connp_res_buffer_eq fuel d hard hc0 hcr hrl hl hbl hhl
  rw [hs]
  cases d.buffer hard false <;> simp

end Htp.CFuns
