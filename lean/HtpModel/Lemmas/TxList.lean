/- The list of stored transactions: lookup by uid (`findTx`) against membership, and the uid hygiene `Hyg` - uids of stored
   transactions are below `nextUid` and identify the record - under which `findTx u` is THE transaction with uid `u`. At the end,
   lookup after a write: `findTx` after `modTx`, `setTx` of a record whose uid is not stored. -/
import HtpModel.Conn.Res
namespace Htp.Conn
open Htp Htp.Gen

structure Hyg (c : Conn) : Prop where
  lt : ∀ t, some t ∈ c.txs → t.uid < c.nextUid
  inj : ∀ t1 t2, some t1 ∈ c.txs → some t2 ∈ c.txs → t1.uid = t2.uid → t1 = t2

theorem hyg_init : Hyg ({} : Conn) :=
  ⟨fun t h => by have : some t ∈ ([] : List (Option Tx)) := h; simp at this,
   fun t1 _ h => by have : some t1 ∈ ([] : List (Option Tx)) := h; simp at this⟩

/-- for initial states that differ from `{}` outside the transaction list (the callback policy, the bomb limit, ...) -/
theorem hyg_of_empty {c : Conn} (h : c.txs = []) : Hyg c :=
  ⟨fun t ht => by rw [h] at ht; simp at ht, fun t1 _ ht => by rw [h] at ht; simp at ht⟩

theorem findTx_mem {c : Conn} {u : Nat} {t : Tx} (hf : c.findTx u = some t) : some t ∈ c.txs ∧ t.uid = u := by
  unfold Conn.findTx at hf
  generalize hq : c.txs.find? _ = q at hf
  cases q with
  | none => simp at hf
  | some o =>
    cases o with
    | none => simp at hf
    | some t' =>
      simp only [Option.join_some, Option.some.injEq] at hf
      subst hf
      have := List.find?_some hq
      simp only [beq_iff_eq] at this
      exact ⟨List.mem_of_find?_eq_some hq, this⟩

theorem findTx_none {c : Conn} {u : Nat} (hf : c.findTx u = none) : ∀ t, some t ∈ c.txs → t.uid ≠ u := by
  intro t ht hu
  unfold Conn.findTx at hf
  generalize hq : c.txs.find? _ = q at hf
  cases q with
  | none =>
    have := List.find?_eq_none.mp hq (some t) ht
    simp [hu] at this
  | some o =>
    cases o with
    | none =>
      have := List.find?_some hq
      simp at this
    | some t' => simp at hf

theorem findTx_of_mem {c : Conn} (h : Hyg c) {t : Tx} (ht : some t ∈ c.txs) : c.findTx t.uid = some t := by
  cases hf : c.findTx t.uid with
  | none => exact absurd rfl (findTx_none hf t ht)
  | some t' =>
    obtain ⟨hm, hu⟩ := findTx_mem hf
    rw [h.inj t' t hm ht hu]

theorem find_of_mem {c c' : Conn} {L : Tx → Tx → Prop} (uid : ∀ {x y}, L x y → y.uid = x.uid) (hy : Hyg c)
    (mem : ∀ t', some t' ∈ c'.txs → (∃ t, some t ∈ c.txs ∧ L t t') ∨ c.nextUid ≤ t'.uid) {u : Nat} {t t' : Tx}
    (h1 : c.findTx u = some t) (h2 : c'.findTx u = some t') : L t t' := by
  obtain ⟨hm, hu⟩ := findTx_mem h1
  obtain ⟨hm', hu'⟩ := findTx_mem h2
  rcases mem t' hm' with ⟨x, hx, l⟩ | hn
  · have : x = t := hy.inj x t hx hm (by rw [← uid l, hu', hu])
    rw [← this]
    exact l
  · have := hy.lt t hm
    omega

theorem getD_uid (c : Conn) (u : Nat) : ((c.findTx u).getD { uid := u }).uid = u := by
  cases hf : c.findTx u with
  | none => rfl
  | some t => exact (findTx_mem hf).2

theorem inTx_cases (c : Conn) : some c.inTx ∈ c.txs ∨ c.inTx = { uid := 0 } := by
  unfold Conn.inTx
  cases hb : c.inn.tx.bind c.findTx with
  | none => exact .inr rfl
  | some t =>
    cases hu : c.inn.tx with
    | none => rw [hu] at hb; simp at hb
    | some u =>
      rw [hu] at hb
      exact .inl (findTx_mem hb).1

theorem setTx_of_none {c : Conn} {t : Tx} (h : c.findTx t.uid = none) : c.setTx t = c := by
  have hn := findTx_none h
  have e : (c.setTx t).txs = c.txs := by
    unfold Conn.setTx
    simp only
    rw [List.map_congr_left (g := id), List.map_id]
    intro o ho
    cases o with
    | none => rfl
    | some x =>
      have : (x.uid == t.uid) = false := by simpa using hn x ho
      simp [this]
  show ({ c with txs := (c.setTx t).txs } : Conn) = c
  rw [e]

theorem findTx_modTx (c : Conn) (uid : Nat) (f : Tx → Tx) (hf : ∀ x, (f x).uid = x.uid) :
    (c.modTx uid f).findTx uid = (c.findTx uid).map f := by
  unfold Conn.modTx Conn.findTx
  simp only
  induction c.txs with
  | nil => rfl
  | cons o rest ih =>
    cases o with
    | none => simpa [List.find?] using ih
    | some x =>
      by_cases h : x.uid = uid
      · have h2 : (f x).uid = uid := by rw [hf]; exact h
        simp [List.find?, h, h2]
      · have h' : (x.uid == uid) = false := by simpa using h
        simp only [List.map_cons, h', List.find?]
        simpa [h'] using ih

theorem findTx_outState (c : Conn) (s : ResState) (uid : Nat) : ({ c with outState := s } : Conn).findTx uid = c.findTx uid := rfl

end Htp.Conn
