/- What a step of the connection model may do to the stored transactions: one relation between two states (`TxsRel`). Transactions are
   identified by uid: every transaction stored afterwards continues one stored before (`TxCont`, Lemmas/TxCont.lean) or is new - its uid
   had not been handed out, and it satisfies the two invariants `RepOKTx` and `ClOKTx`. Only the preservation of the uid hygiene needs the
   hygiene of the state before; in particular the two invariants (`RepOK`, `ClOK`) are kept from any state.
   `TxsRel` is one coordinate of the walk over the model functions (Lemmas/ConnSweep.lean); what follows for each family over call
   histories is in Lemmas/FlagsMonoHist.lean, LensMono.lean, ProgMono.lean, RepInv.lean; `ClOK` over a data call is in Lemmas/ClInv.lean
   and over histories in Lemmas/History.lean, which needs it as a hypothesis of the request direction's call invariant. -/
import HtpModel.Lemmas.TxCont
import HtpModel.Lemmas.TxList
namespace Htp.Conn
open Htp Htp.Gen

def RepOK (c : Conn) : Prop := ∀ t, some t ∈ c.txs → RepOKTx t

def ClOK (c : Conn) : Prop := ∀ t, some t ∈ c.txs → ClOKTx t

structure TxsRel (c c' : Conn) : Prop where
  next : c.nextUid ≤ c'.nextUid
  mem : ∀ t', some t' ∈ c'.txs → (∃ t, some t ∈ c.txs ∧ TxCont t t') ∨ (c.nextUid ≤ t'.uid ∧ RepOKTx t' ∧ ClOKTx t')
  hyg : Hyg c → Hyg c'

theorem TxsRel.refl (c : Conn) : TxsRel c c := ⟨Nat.le_refl _, fun t ht => .inl ⟨t, ht, TxCont.refl t⟩, id⟩

theorem TxsRel.trans {a b c : Conn} (h1 : TxsRel a b) (h2 : TxsRel b c) : TxsRel a c := by
  refine ⟨Nat.le_trans h1.next h2.next, fun t'' ht'' => ?_, fun h => h2.hyg (h1.hyg h)⟩
  rcases h2.mem t'' ht'' with ⟨t', ht', l2⟩ | ⟨hn, hr, hc⟩
  · rcases h1.mem t' ht' with ⟨t, ht, l1⟩ | ⟨hn, hr, hc⟩
    · exact .inl ⟨t, ht, l1.trans l2⟩
    · exact .inr ⟨by rw [l2.uid]; exact hn, l2.rep hr, l2.cl hc⟩
  · exact .inr ⟨Nat.le_trans h1.next hn, hr, hc⟩

theorem TxsRel.rep {c c' : Conn} (h : TxsRel c c') (hc : RepOK c) : RepOK c' := by
  intro t' ht'
  rcases h.mem t' ht' with ⟨t, ht, l⟩ | ⟨_, hr, _⟩
  · exact l.rep (hc t ht)
  · exact hr

theorem TxsRel.cl {c c' : Conn} (h : TxsRel c c') (hc : ClOK c) : ClOK c' := by
  intro t' ht'
  rcases h.mem t' ht' with ⟨t, ht, l⟩ | ⟨_, _, hl⟩
  · exact l.cl (hc t ht)
  · exact hl

theorem TxsRel.find {c c' : Conn} (h : TxsRel c c') (hy : Hyg c) {u : Nat} {t t' : Tx} (h1 : c.findTx u = some t) (h2 : c'.findTx u = some t') :
    TxCont t t' := find_of_mem TxCont.uid hy (fun t' ht' => (h.mem t' ht').imp id (·.1)) h1 h2

/-- a sub-list with the same `nextUid` (htp_connp_tx_freed drops the NULL slots at the head) -/
theorem TxsRel.sub {c c' : Conn} (h1 : ∀ o, o ∈ c'.txs → o ∈ c.txs) (h2 : c'.nextUid = c.nextUid) : TxsRel c c' :=
  ⟨Nat.le_of_eq h2.symm, fun t ht => .inl ⟨t, h1 _ ht, TxCont.refl t⟩,
   fun h => ⟨fun t ht => by rw [h2]; exact h.lt t (h1 _ ht), fun t1 t2 a b => h.inj t1 t2 (h1 _ a) (h1 _ b)⟩⟩

theorem TxsRel.frame {c c' : Conn} (h1 : c'.txs = c.txs) (h2 : c'.nextUid = c.nextUid) : TxsRel c c' :=
  TxsRel.sub (fun _ ho => by rw [← h1]; exact ho) h2

theorem txsRel_map {c c' : Conn} (F : Option Tx → Option Tx) (h1 : c'.txs = c.txs.map F) (h2 : c'.nextUid = c.nextUid)
    (hn : F none = none)
    (hs : ∀ x, some x ∈ c.txs → ∀ t', F (some x) = some t' → t'.uid = x.uid ∧ ∃ t, some t ∈ c.txs ∧ TxCont t t') : TxsRel c c' := by
  have src : ∀ t', some t' ∈ c'.txs → ∃ x, some x ∈ c.txs ∧ F (some x) = some t' := by
    intro t' ht'
    rw [h1, List.mem_map] at ht'
    obtain ⟨o, ho, he⟩ := ht'
    cases o with
    | none => rw [hn] at he; simp at he
    | some x => exact ⟨x, ho, he⟩
  refine ⟨Nat.le_of_eq h2.symm, fun t' ht' => ?_, fun h => ⟨fun t' ht' => ?_, fun t1 t2 a b e => ?_⟩⟩
  · obtain ⟨x, hx, he⟩ := src t' ht'
    exact .inl (hs x hx t' he).2
  · obtain ⟨x, hx, he⟩ := src t' ht'
    rw [h2, (hs x hx t' he).1]; exact h.lt x hx
  · obtain ⟨x1, hx1, e1⟩ := src t1 a
    obtain ⟨x2, hx2, e2⟩ := src t2 b
    have : x1 = x2 := h.inj x1 x2 hx1 hx2 (by rw [← (hs x1 hx1 t1 e1).1, ← (hs x2 hx2 t2 e2).1]; exact e)
    subst this
    rw [e1] at e2
    exact Option.some.inj e2

theorem txsRel_modTx (u : Nat) (f : Tx → Tx) (c : Conn)
    (hf : ∀ t, TxCont t (f t) := by exact fun _ => by tx_cont) : TxsRel c (c.modTx u f) := by
  refine txsRel_map (fun o => match o with | some x => if x.uid == u then some (f x) else some x | none => none) rfl rfl rfl ?_
  intro x hx t' he
  simp only at he
  split at he
  · simp only [Option.some.injEq] at he
    rw [← he]; exact ⟨(hf x).uid, x, hx, hf x⟩
  · simp only [Option.some.injEq] at he
    rw [← he]; exact ⟨rfl, x, hx, TxCont.refl x⟩

theorem txsRel_setTx_find {c : Conn} {uid : Nat} {t0 t : Tx} (hf : c.findTx uid = some t0) (h : TxCont t0 t) : TxsRel c (c.setTx t) := by
  refine txsRel_map (fun o => match o with | some x => if x.uid == t.uid then some t else some x | none => none) rfl rfl rfl ?_
  intro x hx t' he
  simp only at he
  split at he
  · rename_i hu
    simp only [beq_iff_eq] at hu
    simp only [Option.some.injEq] at he
    rw [← he]; exact ⟨hu.symm, t0, (findTx_mem hf).1, h⟩
  · simp only [Option.some.injEq] at he
    rw [← he]; exact ⟨rfl, x, hx, TxCont.refl x⟩

theorem txsRel_destroyTx (u : Nat) (c : Conn) : TxsRel c (destroyTx u c) := by
  refine txsRel_map (fun o => match o with | some x => if x.uid == u then none else some x | none => none) rfl rfl rfl ?_
  intro x hx t' he
  simp only at he
  split at he
  · simp at he
  · simp only [Option.some.injEq] at he
    rw [← he]; exact ⟨rfl, x, hx, TxCont.refl x⟩

theorem txsRel_txCreate (cfg : Cfg) (c : Conn) : TxsRel c (txCreate cfg c).1 := by
  unfold txCreate
  simp only []
  split
  · exact .frame rfl rfl
  · have src : ∀ t, some t ∈ c.txs ++ [some ({ uid := c.nextUid, index := c.txs.length, portNumber := 0 } : Tx)] →
        some t ∈ c.txs ∨ t = { uid := c.nextUid, index := c.txs.length, portNumber := 0 } := by
      intro t ht
      simp only [List.mem_append, List.mem_singleton, Option.some.injEq] at ht
      exact ht
    refine ⟨Nat.le_succ _, fun t ht => ?_, fun h => ⟨fun t ht => ?_, fun t1 t2 a b e => ?_⟩⟩
    · rcases src t ht with h1 | h1
      · exact .inl ⟨t, h1, TxCont.refl t⟩
      · rw [h1]; exact .inr ⟨Nat.le_refl _, repOKTx_new rfl rfl, clOKTx_new rfl⟩
    · show t.uid < c.nextUid + 1
      rcases src t ht with h1 | h1
      · exact Nat.lt_succ_of_lt (h.lt t h1)
      · rw [h1]; exact Nat.lt_succ_self _
    · rcases src t1 a with h1 | h1 <;> rcases src t2 b with h2 | h2
      · exact h.inj t1 t2 h1 h2 e
      · have := h.lt t1 h1; rw [h2] at e; simp only at e; omega
      · have := h.lt t2 h2; rw [h1] at e; simp only at e; omega
      · rw [h1, h2]

theorem repOK_init : RepOK ({} : Conn) := fun t h => by
  have : some t ∈ ([] : List (Option Tx)) := h
  simp at this

theorem repOKTx_inTx {c : Conn} (h : RepOK c) : RepOKTx c.inTx := by
  rcases inTx_cases c with hm | hd
  · exact h _ hm
  · rw [hd]; exact repOKTx_new rfl rfl

theorem clOK_init : ClOK ({} : Conn) := fun t h => by
  have : some t ∈ ([] : List (Option Tx)) := h
  simp at this

theorem clOKTx_inTx {c : Conn} (h : ClOK c) : ClOKTx c.inTx := by
  rcases inTx_cases c with hm | hd
  · exact h _ hm
  · rw [hd]; exact clOKTx_new rfl

end Htp.Conn
