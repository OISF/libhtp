/- The callback machinery of the connection model (callbacks, the library's body handlers, the decompression chain, body-data processing):
   what a relation between the state before and after has to satisfy to hold across all of it (`CbRel`, `walk_*`, `dec_rel`), and the
   first such relation: both direction records and both parser states are left alone (`Inert`, with its direction-record half `frame_*`; single fields are read off with `FrameDirs.inn_fields` / `FrameDirs.out_fields`).
   At the start and at the end, facts about single functions that the property files read: the event a callback logs; what a callback
   leaves of the records and scalars. -/
import HtpModel.Lemmas.TxCont
import HtpModel.Lemmas.FlagsMono
import HtpModel.Lemmas.TxList

namespace Htp.Conn
open Htp.Gen

@[simp] theorem destroyTx_events (u : Nat) (c : Conn) : (destroyTx u c).events = c.events := rfl
@[simp] theorem destroyTx_cbCount (u : Nat) (c : Conn) : (destroyTx u c).cbCount = c.cbCount := rfl
@[simp] theorem modTx_events (u : Nat) (f : Tx → Tx) (c : Conn) : (c.modTx u f).events = c.events := rfl
@[simp] theorem modTx_cbCount (u : Nat) (f : Tx → Tx) (c : Conn) : (c.modTx u f).cbCount = c.cbCount := rfl
@[simp] theorem setTx_events (t : Tx) (c : Conn) : (c.setTx t).events = c.events := rfl

@[simp] theorem modIn_inn (c : Conn) (f : Tx → Tx) : (c.modIn f).inn = c.inn := by
  unfold Conn.modIn; cases c.inn.tx <;> rfl
@[simp] theorem modIn_out (c : Conn) (f : Tx → Tx) : (c.modIn f).out = c.out := by
  unfold Conn.modIn; cases c.inn.tx <;> rfl
@[simp] theorem modOut_inn (c : Conn) (f : Tx → Tx) : (c.modOut f).inn = c.inn := by
  unfold Conn.modOut; cases c.out.tx <;> rfl
@[simp] theorem modOut_out (c : Conn) (f : Tx → Tx) : (c.modOut f).out = c.out := by
  unfold Conn.modOut; cases c.out.tx <;> rfl
@[simp] theorem modIn_events (c : Conn) (f : Tx → Tx) : (c.modIn f).events = c.events := by
  unfold Conn.modIn; cases c.inn.tx <;> rfl
@[simp] theorem modOut_events (c : Conn) (f : Tx → Tx) : (c.modOut f).events = c.events := by
  unfold Conn.modOut; cases c.out.tx <;> rfl

def eventOf (h : Hook) (uid : Option Nat) (data : Option Bytes) (isLast : Bool) (c : Conn) (gapLen : Nat) (stale : Bool) : Event :=
  let tx := (uid.bind c.findTx)
  { hook := h, tx := match uid with | some u => (u : Int) | none => -1, data := data, isLast := isLast,
    gapLen := gapLen, stale := stale,
    reqProgress := (tx.map (·.reqProgress)).getD 0, resProgress := (tx.map (·.resProgress)).getD 0 }

theorem runCallback_log (h : Hook) (uid : Option Nat) (data : Option Bytes) (isLast : Bool) (c : Conn) (g : Nat) (s : Bool) :
    (runCallback h uid data isLast c g s).1.events = eventOf h uid data isLast c g s :: c.events ∧
    (runCallback h uid data isLast c g s).1.cbCount = c.cbCount + 1 := by
  cases uid with
  | none =>
    unfold runCallback eventOf
    simp only
    cases lookupAction c.policy c.cbCount <;> simp
  | some u =>
    unfold runCallback eventOf
    simp only
    cases lookupAction c.policy c.cbCount with
    | ok => simp
    | declined => simp
    | stop => simp
    | error => simp
    | destroyTx =>
      simp only
      cases (some u).bind c.findTx with
      | none => simp
      | some t => simp only; split <;> simp
    | regTxHooks => simp

/-- callbacks can change a direction record only by clearing its tx reference -/
def Dir.eraseTx (d : Dir) : Dir := { d with tx := none }

def FrameDirs (c c' : Conn) : Prop := c'.inn.eraseTx = c.inn.eraseTx ∧ c'.out.eraseTx = c.out.eraseTx

theorem FrameDirs.refl (c : Conn) : FrameDirs c c := ⟨rfl, rfl⟩
theorem FrameDirs.trans {a b c : Conn} (h1 : FrameDirs a b) (h2 : FrameDirs b c) : FrameDirs a c :=
  ⟨h2.1.trans h1.1, h2.2.trans h1.2⟩

def KeepSt (c c' : Conn) : Prop := c'.inState = c.inState ∧ c'.outState = c.outState

theorem KeepSt.refl (c : Conn) : KeepSt c c := ⟨rfl, rfl⟩
theorem KeepSt.trans {a b c : Conn} (h1 : KeepSt a b) (h2 : KeepSt b c) : KeepSt a c :=
  ⟨h2.1.trans h1.1, h2.2.trans h1.2⟩

def Inert (c c' : Conn) : Prop := FrameDirs c c' ∧ KeepSt c c'

theorem Inert.refl (c : Conn) : Inert c c := ⟨FrameDirs.refl c, KeepSt.refl c⟩
theorem Inert.trans {a b c : Conn} (h1 : Inert a b) (h2 : Inert b c) : Inert a c := ⟨h1.1.trans h2.1, h1.2.trans h2.2⟩

theorem inert_destroyTx (u : Nat) (c : Conn) : Inert c (destroyTx u c) := by
  unfold destroyTx Inert FrameDirs Dir.eraseTx
  refine ⟨⟨?_, ?_⟩, rfl, rfl⟩ <;> (simp only []; split <;> rfl)

/-- a case split on an `if` that stands under a projection, without touching the rest of the goal (the `split` tactic rewrites the
    whole goal) -/
theorem ite_cases {α : Type} {P : α → Prop} {p : Prop} [Decidable p] {a b : α} (ha : p → P a) (hb : ¬p → P b) :
    P (if p then a else b) := by
  split
  · exact ha ‹_›
  · exact hb ‹_›

theorem ite_fst {P : Conn → Prop} {p : Prop} [Decidable p] {a b : R} (ha : p → P a.1) (hb : ¬p → P b.1) : P (if p then a else b).1 :=
  ite_cases (P := fun r : R => P r.1) ha hb

/-- `r >>? f` is `f r.1` after HTP_OK and `r` after any other answer -/
theorem andThen_cases {Q : R → Prop} (r : R) (f : Conn → R) (hn : r.2 ≠ .ok → Q r) (hk : r.2 = .ok → Q (f r.1)) : Q (r >>? f) := by
  unfold R.andThen
  split
  · exact hk (eq_of_beq ‹_›)
  · exact hn fun e => ‹¬ _› (beq_iff_eq.2 e)

/-- the decompression chain writes the connection only in the final callback, in taking an answer off the inflate oracle and in setting
    the unsupported marker. (Mutual recursion on the fuel, so the four are proved together: decSend, decLoop, decStep, decompress, in that
    order; the state is `.2.1` of a result `List Dec × R`. For a `CbRel K` use `walk_dec K`, below, which discharges `hu`, `hzo`, `hfin`.) -/
theorem dec_rel {Rel : Conn → Conn → Prop} (refl : ∀ c, Rel c c) (trans : ∀ {a b c}, Rel a b → Rel b c → Rel a c)
    (hu : ∀ c : Conn, Rel c { c with unsupported := true }) (hzo : ∀ (c : Conn) (zs : List ZRes), Rel c { c with zoracle := zs })
    (cfg : Cfg) (req : Bool) (uid : Nat) (hfin : ∀ l data c, Rel c (decFinalCallback cfg req uid l data c).1) : ∀ fuel : Nat,
    (∀ l useNext rest data c, Rel c (decSend cfg req uid l fuel useNext rest data c).2.1) ∧
    (∀ d drec rest inp c, Rel c (decLoop cfg req uid d fuel drec rest inp c).2.1) ∧
    (∀ d drec rest inp c, Rel c (decStep cfg req uid d fuel drec rest inp c).2.1) ∧
    (∀ ds data c, Rel c (decompress cfg req uid fuel ds data c).2.1) := by
  intro fuel
  induction fuel with
  | zero =>
    refine ⟨?_, ?_, ?_, ?_⟩
    · intro l useNext rest data c; unfold decSend; exact hu c
    · intro d drec rest inp c; unfold decLoop; exact hu c
    · intro d drec rest inp c; unfold decStep; exact hu c
    · intro ds data c; unfold decompress; exact hu c
  | succ k ih =>
    obtain ⟨ihS, ihL, ihT, ihD⟩ := ih
    refine ⟨?_, ?_, ?_, ?_⟩
    · intro l useNext rest data c
      unfold decSend
      split
      · exact ihD ..
      · exact hfin ..
    · intro d drec rest inp c
      unfold decLoop
      split
      · exact refl c
      · by_cases hfull : (drec.buf.length == GZIP_BUF_SIZE) = true
        · simp only [hfull, if_true]
          rcases hx : decSend cfg req uid false k (drec.kind != 0) rest (some drec.buf) c with ⟨rest1, c1, rc1⟩
          have f1 : Rel c c1 := by have := ihS false (drec.kind != 0) rest (some drec.buf) c; rw [hx] at this; exact this
          simp only
          by_cases hrc : (rc1 != Rc.ok) = true
          · simp only [hrc, if_true]; exact f1
          · simp only [hrc, Bool.false_eq_true, if_false]
            exact trans f1 (ihT ..)
        · simp only [hfull, Bool.false_eq_true, if_false]
          exact ihT ..
    · intro d drec rest inp c
      unfold decStep
      refine ite_cases (P := fun r : List Dec × R => Rel c r.2.1) (fun _ => hu c) fun _ => ?_
      refine ite_cases (P := fun r : List Dec × R => Rel c r.2.1) (fun _ => refl c) fun _ => ?_
      split
      · exact hu c
      · rename_i z zs _
        have hz := hzo c zs
        refine ite_cases (P := fun r : List Dec × R => Rel c r.2.1) (fun _ => ?_) fun _ => ?_
        · -- stream end: the buffer goes out
          have f1 := trans hz (ihS false (drec.kind != 0) rest (some (drec.buf ++ z.produced)) { c with zoracle := zs })
          exact ite_cases (P := fun r : List Dec × R => Rel c r.2.1) (fun _ => f1) fun _ => f1
        · refine ite_cases (P := fun r : List Dec × R => Rel c r.2.1) (fun _ => ?_) fun _ => trans hz (ihL ..)
          simp only []
          split
          · refine ite_cases (P := fun r : List Dec × R => Rel c r.2.1) (fun _ => ?_) fun _ => ?_
            · exact hz
            · exact trans hz (ihL ..)
          · have f1 := trans hz (hfin false (some d) { c with zoracle := zs })
            exact ite_cases (P := fun r : List Dec × R => Rel c r.2.1) (fun _ => f1) fun _ => f1
    · intro ds data c
      unfold decompress
      cases ds with
      | nil => exact refl c
      | cons drec rest =>
        simp only
        split
        · rcases hx : decFinalCallback cfg req uid data.isNone data c with ⟨c1, rc1⟩
          have f1 : Rel c c1 := by have := hfin data.isNone data c; rw [hx] at this; exact this
          exact f1
        · cases data with
          | none =>
            simp only
            rcases hx : decSend cfg req uid true k (drec.kind != 0) rest (if drec.buf.length > 0 then some drec.buf else none) c with ⟨rest1, c1, rc1⟩
            have f1 : Rel c c1 := by
              have := ihS true (drec.kind != 0) rest (if drec.buf.length > 0 then some drec.buf else none) c; rw [hx] at this; exact this
            simp only
            split <;> exact f1
          | some d => exact ihL ..

/-- a state without the model's bookkeeping of the decompressors: the unsupported marker, the inflate oracle, the two chains -/
def cbCore (c : Conn) : Conn := { c with unsupported := false, zoracle := [], inDecs := [], outDecs := [] }

/-- what a relation `Rel` between the state before and after a step has to satisfy in order to hold across the whole callback machinery:
    it is reflexive and transitive and holds for every primitive write these functions make. A stored transaction is only ever replaced
    by a continuation of itself (`TxCont`, Lemmas/TxCont.lean): that is all a relation may ask of an update, and the walks show it at
    each place of update (`tx_cont`, the default of `modTx` and `setTx`).
    Instances: `inert_cb` (below), `keeps_cb` (Lemmas/ConnSweep.lean); by `CbRel.mono` from `inert_cb`: `reqTx_cb`, `resTx_cb` (Lemmas/TxWalk.lean).
    `Still` (Lemmas/Owed.lean) is not one: it is read off `ReqTx` / `ResTx` (`ReqTx.still`, `ResTx.still`). -/
structure CbRel (Rel : Conn → Conn → Prop) : Prop where
  refl : ∀ c, Rel c c
  trans : ∀ {a b c}, Rel a b → Rel b c → Rel a c
  log : ∀ (ev : Event) (c : Conn), Rel c { c with cbCount := c.cbCount + 1, events := ev :: c.events }
  destroyTx : ∀ u c, Rel c (destroyTx u c)
  modTx : ∀ u (f : Tx → Tx) c, (hf : ∀ t, TxCont t (f t) := by exact fun _ => by tx_cont) → Rel c (c.modTx u f)
  setTx : ∀ {c : Conn} {uid : Nat} {t0 : Tx} (t : Tx), c.findTx uid = some t0 → (h : TxCont t0 t := by tx_cont) → Rel c (c.setTx t)
  /-- a write to the model's bookkeeping of the decompressors (`K.book rfl`) -/
  book : ∀ {c c' : Conn}, cbCore c' = cbCore c → Rel c c'

variable {Rel : Conn → Conn → Prop}

theorem CbRel.andThen (K : CbRel Rel) (c0 : Conn) (r : R) (f : Conn → R) (h1 : Rel c0 r.1) (h2 : ∀ c, Rel c (f c).1) :
    Rel c0 (r >>? f).1 :=
  andThen_cases (Q := fun x => Rel c0 x.1) r f (fun _ => h1) fun _ => K.trans h1 (h2 _)

theorem CbRel.mono {Rel Rel' : Conn → Conn → Prop} (K : CbRel Rel) (h : ∀ {c c'}, Rel c c' → Rel' c c')
    (trans : ∀ {a b c}, Rel' a b → Rel' b c → Rel' a c) : CbRel Rel' where
  refl c := h (K.refl c)
  trans := trans
  log ev c := h (K.log ev c)
  destroyTx u c := h (K.destroyTx u c)
  modTx u f c hf := h (K.modTx u f c hf)
  setTx t hf hw := h (K.setTx t hf hw)
  book e := h (K.book e)

/-- the write-back of a record that was read with `getD` -/
theorem CbRel.setTx_getD (K : CbRel Rel) {c : Conn} {uid : Nat} {d t : Tx} (hd : d.uid = uid)
    (h : TxCont ((c.findTx uid).getD d) t := by tx_cont) : Rel c (c.setTx t) := by
  cases hf : c.findTx uid with
  | some t0 => rw [hf] at h; exact K.setTx t hf h
  | none =>
    rw [hf] at h
    rw [setTx_of_none (by rw [h.uid.trans hd]; exact hf)]
    exact K.refl c

theorem CbRel.modIn (K : CbRel Rel) (f : Tx → Tx) (c : Conn) (hf : ∀ t, TxCont t (f t) := by exact fun _ => by tx_cont) :
    Rel c (c.modIn f) := by
  unfold Conn.modIn
  split
  · exact K.modTx _ f c hf
  · exact K.refl c

theorem CbRel.modOut (K : CbRel Rel) (f : Tx → Tx) (c : Conn) (hf : ∀ t, TxCont t (f t) := by exact fun _ => by tx_cont) :
    Rel c (c.modOut f) := by
  unfold Conn.modOut
  split
  · exact K.modTx _ f c hf
  · exact K.refl c

/-- (`g`, `s`: `runCallback`'s optional `gapLen` and `stale`, Conn/TxState.lean) -/
theorem walk_runCallback (K : CbRel Rel) (h : Hook) (uid : Option Nat) (data : Option Bytes) (isLast : Bool) (c : Conn) (g : Nat)
    (s : Bool) : Rel c (runCallback h uid data isLast c g s).1 := by
  unfold runCallback
  simp only
  cases lookupAction c.policy c.cbCount with
  | ok => exact K.log _ c
  | declined => exact K.log _ c
  | stop => exact K.log _ c
  | error => exact K.log _ c
  | destroyTx =>
    simp only
    cases uid.bind c.findTx with
    | none => exact K.log _ c
    | some t =>
      simp only
      split
      · exact K.trans (K.log _ c) (K.destroyTx _ _)
      · exact K.log _ c
  | regTxHooks =>
    simp only
    cases uid with
    | none => exact K.log _ c
    | some u => exact K.trans (K.log _ c) (K.modTx _ _ _)

theorem walk_runCallbackN (K : CbRel Rel) (n : Nat) (h : Hook) (uid : Option Nat) (data : Option Bytes) (isLast : Bool) (g : Nat)
    (c : Conn) : Rel c (runCallbackN n h uid data isLast g c).1 := by
  induction n generalizing c with
  | zero => exact K.refl c
  | succ k ih =>
    unfold runCallbackN
    exact K.andThen c _ _ (walk_runCallback K ..) (fun c' => ih c')

theorem walk_mpartFileEvents (K : CbRel Rel) (uid : Nat) (evs : List (Nat × Option Bytes)) (c : Conn) :
    Rel c (mpartFileEvents uid evs c) := by
  induction evs generalizing c with
  | nil => exact K.refl c
  | cons e rest ih =>
    obtain ⟨i, d⟩ := e
    unfold mpartFileEvents
    exact K.trans (walk_runCallback K ..) (ih _)

theorem walk_mpartBodyCallback (K : CbRel Rel) (uid : Nat) (data : Option Bytes) (c : Conn) :
    Rel c (mpartBodyCallback uid data c).1 := by
  unfold mpartBodyCallback
  cases hf : c.findTx uid with
  | none => exact K.refl c
  | some t =>
    simp only
    cases t.mpart with
    | none => exact K.refl c
    | some mp =>
      simp only
      split
      · exact K.refl c
      · cases data with
        | some d => exact K.trans (K.setTx _ hf) (walk_mpartFileEvents K ..)
        | none => exact K.trans (K.setTx _ hf) (walk_mpartFileEvents K ..)

theorem walk_urlencBodyCallback (K : CbRel Rel) (cfg : Cfg) (uid : Nat) (data : Option Bytes) (c : Conn) :
    Rel c (urlencBodyCallback cfg uid data c).1 := by
  unfold urlencBodyCallback
  cases hf : c.findTx uid with
  | none => exact K.refl c
  | some t =>
    simp only
    cases t.urlenBody with
    | none => exact K.refl c
    | some u =>
      simp only
      refine ite_fst (fun _ => K.refl c) fun _ => ?_
      cases data with
      | some d => exact K.setTx _ hf
      | none => exact K.setTx _ hf

theorem walk_runTxReqBodyHooks (K : CbRel Rel) (cfg : Cfg) (uid : Nat) (data : Option Bytes) (isLast : Bool) (g : Nat)
    (hs : List TxHook) (c : Conn) : Rel c (runTxReqBodyHooks cfg uid data isLast g hs c).1 := by
  induction hs generalizing c with
  | nil => exact K.refl c
  | cons h rest ih =>
    unfold runTxReqBodyHooks
    apply K.andThen
    · cases h with
      | user => exact walk_runCallback K ..
      | urlenc => exact walk_urlencBodyCallback K ..
      | mpart => exact walk_mpartBodyCallback K ..
    · intro c'
      exact ih c'

theorem walk_reqRunHookBodyDataL (K : CbRel Rel) (cfg : Cfg) (data : Option Bytes) (g : Nat) (l : Bool) (c : Conn) :
    Rel c (reqRunHookBodyDataL cfg data g l c).1 := by
  unfold reqRunHookBodyDataL
  split
  · exact K.refl c
  · cases c.inn.tx with
    | none => exact K.refl c
    | some uid =>
      simp only
      apply K.andThen
      · exact walk_runTxReqBodyHooks K ..
      · intro c2
        apply K.andThen
        · exact walk_runCallback K ..
        · intro c3
          split
          · exact walk_runCallback K ..
          · exact K.refl c3

theorem walk_reqRunHookBodyData (K : CbRel Rel) (cfg : Cfg) (data : Option Bytes) (g : Nat) (c : Conn) :
    Rel c (reqRunHookBodyData cfg data g c).1 := by
  unfold reqRunHookBodyData; exact walk_reqRunHookBodyDataL K ..

theorem walk_resRunHookBodyData (K : CbRel Rel) (data : Option Bytes) (c : Conn) : Rel c (resRunHookBodyData data c).1 := by
  unfold resRunHookBodyData
  split
  · exact K.refl c
  · cases c.out.tx with
    | none => exact K.refl c
    | some uid =>
      simp only
      apply K.andThen
      · exact walk_runCallbackN K ..
      · intro c2; exact walk_runCallback K ..

theorem walk_decFinalCallback (K : CbRel Rel) (cfg : Cfg) (req : Bool) (uid : Nat) (l : Bool) (data : Option Bytes) (c : Conn) :
    Rel c (decFinalCallback cfg req uid l data c).1 := by
  unfold decFinalCallback
  refine ite_fst (fun _ => ?_) fun _ => ?_
  · have h0 := K.trans (K.modTx uid (fun t => { t with reqEntityLen := t.reqEntityLen + (data.map (·.length)).getD 0 }) c)
      (walk_reqRunHookBodyDataL K cfg data 0 l _)
    exact ite_fst (fun _ => h0) fun _ => ite_fst (fun _ => h0) fun _ => h0
  · have h0 := K.trans (K.modTx uid (fun t => { t with resEntityLen := t.resEntityLen + (data.map (·.length)).getD 0 }) c)
      (walk_resRunHookBodyData K data _)
    exact ite_fst (fun _ => h0) fun _ => ite_fst (fun _ => h0) fun _ => h0

theorem walk_dec (K : CbRel Rel) (cfg : Cfg) (req : Bool) (uid : Nat) : ∀ fuel : Nat,
    (∀ l useNext rest data c, Rel c (decSend cfg req uid l fuel useNext rest data c).2.1) ∧
    (∀ d drec rest inp c, Rel c (decLoop cfg req uid d fuel drec rest inp c).2.1) ∧
    (∀ d drec rest inp c, Rel c (decStep cfg req uid d fuel drec rest inp c).2.1) ∧
    (∀ ds data c, Rel c (decompress cfg req uid fuel ds data c).2.1) :=
  dec_rel K.refl K.trans (fun _ => K.book rfl) (fun _ _ => K.book rfl) cfg req uid (fun l data c => walk_decFinalCallback K cfg req uid l data c)

theorem walk_reqProcessBodyData (K : CbRel Rel) (cfg : Cfg) (data : Option Bytes) (g : Nat) (c : Conn) :
    Rel c (reqProcessBodyData cfg data g c).1 := by
  unfold reqProcessBodyData
  cases c.inn.tx with
  | none => exact K.refl c
  | some uid =>
    refine ite_fst (fun _ => ?_) fun _ => ?_
    · refine ite_fst (fun _ => K.refl c) fun _ => ?_
      refine ite_fst (fun _ => K.book rfl) fun _ => ?_
      refine ite_fst (fun _ => K.book rfl) fun _ => ?_
      exact K.trans ((walk_dec K cfg true uid _).2.2.2 c.inDecs data c) (K.book rfl)
    · have h := K.trans (K.modTx uid (fun t => { t with reqEntityLen := t.reqEntityLen + (data.map (·.length)).getD g }) c)
        (walk_reqRunHookBodyData K cfg data g _)
      exact ite_fst (fun _ => h) fun _ => h

theorem walk_resProcessBodyData (K : CbRel Rel) (cfg : Cfg) (data : Option Bytes) (c : Conn) :
    Rel c (resProcessBodyData cfg data c).1 := by
  unfold resProcessBodyData
  cases c.out.tx with
  | none => exact K.refl c
  | some uid =>
    have f0 := K.modTx uid (fun t => { t with resMessageLen := t.resMessageLen + (data.map (·.length)).getD 0 }) c
    refine ite_fst (fun _ => ?_) fun _ => ?_
    · refine ite_fst (fun _ => f0) fun _ => ?_
      refine ite_fst (fun _ => K.trans f0 (K.book rfl)) fun _ => ?_
      exact K.trans f0 (K.trans ((walk_dec K cfg false uid _).2.2.2 _ data _) (K.book rfl))
    · refine ite_fst (fun _ => ?_) fun _ => f0
      have f2 := K.trans (K.trans f0 (K.modTx uid (fun t => { t with resEntityLen := t.resEntityLen + (data.map (·.length)).getD 0 }) _))
        (walk_resRunHookBodyData K data _)
      exact ite_fst (fun _ => f2) fun _ => f2

theorem walk_resProcessBodyDataGap (K : CbRel Rel) (cfg : Cfg) (data : Option Bytes) (g : Nat) (c : Conn) :
    Rel c (resBodyIdentityClKnown.resProcessBodyDataGap cfg data g c).1 := by
  unfold resBodyIdentityClKnown.resProcessBodyDataGap
  refine ite_fst (fun _ => walk_resProcessBodyData K ..) fun _ => ?_
  cases c.out.tx with
  | none => exact K.refl c
  | some uid =>
    have f0 := K.modTx uid (fun t => { t with resMessageLen := t.resMessageLen + g }) c
    refine ite_fst (fun _ => ?_) fun _ => K.trans f0 (K.book rfl)
    have f1 := K.trans f0 (K.modTx uid (fun t => { t with resEntityLen := t.resEntityLen + g }) _)
    refine ite_fst (fun _ => ?_) fun _ => ?_
    all_goals exact K.trans f1 (K.andThen _ _ _ (walk_runCallbackN K ..) (fun c2 => walk_runCallback K ..))

theorem walk_txFinalize (K : CbRel Rel) (cfg : Cfg) (uid : Nat) (c : Conn) : Rel c (txFinalize cfg uid c).1 := by
  unfold txFinalize
  cases c.findTx uid with
  | none => exact K.refl c
  | some t =>
    simp only
    split
    · exact K.refl c
    · apply K.andThen _ _ _ (walk_runCallback K ..)
      intro c1
      split
      · split
        · exact K.destroyTx ..
        · exact K.refl _
      · exact K.refl _

theorem inert_cb : CbRel Inert where
  refl := Inert.refl
  trans := Inert.trans
  log _ _ := ⟨⟨rfl, rfl⟩, rfl, rfl⟩
  destroyTx := inert_destroyTx
  modTx _ _ _ _ := ⟨⟨rfl, rfl⟩, rfl, rfl⟩
  setTx _ _ _ := ⟨⟨rfl, rfl⟩, rfl, rfl⟩
  book h := ⟨⟨congrArg (·.inn.eraseTx) h, congrArg (·.out.eraseTx) h⟩, congrArg (·.inState) h, congrArg (·.outState) h⟩

theorem inert_runCallbackN (n : Nat) (h : Hook) (uid : Option Nat) (data : Option Bytes) (isLast : Bool) (g : Nat) (c : Conn) :
    Inert c (runCallbackN n h uid data isLast g c).1 := walk_runCallbackN inert_cb ..
theorem inert_resProcessBodyDataGap (cfg : Cfg) (data : Option Bytes) (g : Nat) (c : Conn) :
    Inert c (resBodyIdentityClKnown.resProcessBodyDataGap cfg data g c).1 := walk_resProcessBodyDataGap inert_cb ..

theorem frame_runCallback (h : Hook) (uid : Option Nat) (data : Option Bytes) (isLast : Bool) (c : Conn) (g : Nat) (s : Bool) :
    FrameDirs c (runCallback h uid data isLast c g s).1 := (walk_runCallback inert_cb ..).1
theorem frame_reqProcessBodyData (cfg : Cfg) (data : Option Bytes) (g : Nat) (c : Conn) :
    FrameDirs c (reqProcessBodyData cfg data g c).1 := (walk_reqProcessBodyData inert_cb ..).1

theorem FrameDirs.inn_fields {c c' : Conn} (h : FrameDirs c c') :
    c'.inn.read = c.inn.read ∧ c'.inn.len = c.inn.len ∧ c'.inn.consume = c.inn.consume ∧ c'.inn.cur = c.inn.cur ∧
    c'.inn.bodyDataLeft = c.inn.bodyDataLeft ∧ c'.inn.status = c.inn.status ∧ c'.inn.buf = c.inn.buf ∧
    c'.inn.chunkedLength = c.inn.chunkedLength ∧ c'.inn.curNull = c.inn.curNull := by
  have h1 := h.1
  unfold Dir.eraseTx at h1
  injection h1
  simp_all

theorem FrameDirs.out_fields {c c' : Conn} (h : FrameDirs c c') :
    c'.out.read = c.out.read ∧ c'.out.len = c.out.len ∧ c'.out.consume = c.out.consume ∧
    c'.out.bodyDataLeft = c.out.bodyDataLeft ∧ c'.out.chunkedLength = c.out.chunkedLength ∧ c'.out.status = c.out.status := by
  have h1 := h.2
  unfold Dir.eraseTx at h1
  injection h1
  simp_all

theorem reqProcessBodyData_rc (cfg : Cfg) (data : Option Bytes) (g : Nat) (c : Conn) :
    (reqProcessBodyData cfg data g c).2 = Rc.ok ∨ (reqProcessBodyData cfg data g c).2 = Rc.error := by
  unfold reqProcessBodyData
  cases c.inn.tx with
  | none => exact Or.inr rfl
  | some uid =>
    refine ite_cases (P := fun r : R => r.2 = Rc.ok ∨ r.2 = Rc.error) (fun _ => ?_) fun _ => ?_
    · refine ite_cases (P := fun r : R => r.2 = Rc.ok ∨ r.2 = Rc.error) (fun _ => Or.inr rfl) fun _ => ?_
      refine ite_cases (P := fun r : R => r.2 = Rc.ok ∨ r.2 = Rc.error) (fun _ => Or.inl rfl) fun _ => ?_
      exact ite_cases (P := fun r : R => r.2 = Rc.ok ∨ r.2 = Rc.error) (fun _ => Or.inl rfl) fun _ => Or.inl rfl
    · exact ite_cases (P := fun r : R => r.2 = Rc.ok ∨ r.2 = Rc.error) (fun _ => Or.inr rfl) fun _ => Or.inl rfl

/-- callbacks other than TRANSACTION_COMPLETE cannot even clear a tx reference: both direction records are untouched -/
theorem runCallback_dirs (h : Hook) (uid : Option Nat) (data : Option Bytes) (isLast : Bool) (c : Conn) (g : Nat) (s : Bool)
    (hne : h ≠ .transactionComplete) :
    (runCallback h uid data isLast c g s).1.inn = c.inn ∧ (runCallback h uid data isLast c g s).1.out = c.out ∧
    (runCallback h uid data isLast c g s).1.txs.length = c.txs.length := by
  unfold runCallback
  simp only
  cases lookupAction c.policy c.cbCount with
  | ok => exact ⟨rfl, rfl, rfl⟩
  | declined => exact ⟨rfl, rfl, rfl⟩
  | stop => exact ⟨rfl, rfl, rfl⟩
  | error => exact ⟨rfl, rfl, rfl⟩
  | destroyTx =>
    simp only
    cases uid.bind c.findTx with
    | none => exact ⟨rfl, rfl, rfl⟩
    | some t =>
      simp only
      have : (h == Hook.transactionComplete) = false := by
        cases h <;> first | rfl | exact absurd rfl hne
      simp [this]
  | regTxHooks =>
    simp only
    cases uid with
    | none => exact ⟨rfl, rfl, rfl⟩
    | some u => simp [Conn.modTx]

theorem runCallback_scalars (h : Hook) (uid : Option Nat) (data : Option Bytes) (isLast : Bool) (c : Conn) (g : Nat) (s : Bool) :
    (runCallback h uid data isLast c g s).1.outNextTxIndex = c.outNextTxIndex ∧
    (runCallback h uid data isLast c g s).1.inState = c.inState ∧
    (runCallback h uid data isLast c g s).1.outState = c.outState ∧
    (runCallback h uid data isLast c g s).1.connFlags = c.connFlags ∧
    (runCallback h uid data isLast c g s).1.inDataCounter = c.inDataCounter ∧
    (runCallback h uid data isLast c g s).1.outDataCounter = c.outDataCounter := by
  unfold runCallback
  simp only
  cases lookupAction c.policy c.cbCount with
  | ok => exact ⟨rfl, rfl, rfl, rfl, rfl, rfl⟩
  | declined => exact ⟨rfl, rfl, rfl, rfl, rfl, rfl⟩
  | stop => exact ⟨rfl, rfl, rfl, rfl, rfl, rfl⟩
  | error => exact ⟨rfl, rfl, rfl, rfl, rfl, rfl⟩
  | destroyTx =>
    simp only
    cases uid.bind c.findTx with
    | none => exact ⟨rfl, rfl, rfl, rfl, rfl, rfl⟩
    | some t => simp only; split <;> exact ⟨rfl, rfl, rfl, rfl, rfl, rfl⟩
  | regTxHooks =>
    simp only
    cases uid with
    | none => exact ⟨rfl, rfl, rfl, rfl, rfl, rfl⟩
    | some u => exact ⟨rfl, rfl, rfl, rfl, rfl, rfl⟩

/-- htp_tx_state_response_start attaches the response direction to `uid` and leaves the pairing index alone,
    whatever the RESPONSE_START callback does -/
theorem txStateResponseStart_attach (uid : Nat) (c : Conn) :
    (txStateResponseStart uid c).1.out.tx = some uid ∧ (txStateResponseStart uid c).1.outNextTxIndex = c.outNextTxIndex := by
  unfold txStateResponseStart
  simp only
  have hd := runCallback_dirs .responseStart (some uid) none false { c with out := { c.out with tx := some uid } } 0 false (by decide)
  have hs := runCallback_scalars .responseStart (some uid) none false { c with out := { c.out with tx := some uid } } 0 false
  unfold R.andThen
  split
  · simp only
    split
    · exact ⟨by simp [Conn.modTx, hd.2.1], by simp [Conn.modTx, hs.1]⟩
    · exact ⟨by simp [Conn.modTx, hd.2.1], by simp [Conn.modTx, hs.1]⟩
  · exact ⟨by rw [hd.2.1], by rw [hs.1]⟩

end Htp.Conn
