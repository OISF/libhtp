/- C09, the byte-counter clause: the per-connection byte counters equal the bytes offered. Nothing below the two drivers writes
   `inDataCounter` / `outDataCounter` (the `KeepCtr` coordinate of the walk, Lemmas/ConnSweep.lean); only the two store-chunk steps
   (htp_conn_track_inbound_data / _outbound_data) do, and `keeps_reqData` / `within_resData` (Lemmas/ConnSweepOut.lean) say by how
   much. What a history counts (`countedReq`, `countedRes`) and what it offers (`offeredReq`, `offeredRes`) agree when no data call is
   answered by an early return; the last section has a run on which they differ. `countedReq`, `AllReqAccepted` and their like are
   defined by recursion along the history with the state threaded through, and the theorems about them are inductions along that
   recursion: they speak of every state on the way, not of the last one, so they are no instances of the invariant lemma of
   Lemmas/Calls.lean. (`reqCounted`, `resCounted`, `Accepted` are defined in Lemmas/Calls.lean.) -/
import HtpModel.Lemmas.ConnSweepHist
namespace Htp.Conn
open Htp Htp.Gen

theorem reqData_counters (cfg : Cfg) (data : Option Bytes) (len : Nat) (c : Conn) :
    (reqData cfg data len c).1.inDataCounter = c.inDataCounter + (if reqCounted c len = true then len else 0) ∧
    (reqData cfg data len c).1.outDataCounter = c.outDataCounter :=
  (keeps_reqData cfg data len c).ctr

theorem resData_counters (cfg : Cfg) (data : Option Bytes) (len : Nat) (c : Conn) :
    (resData cfg data len c).1.outDataCounter = c.outDataCounter + (if resCounted c len = true then len else 0) ∧
    (resData cfg data len c).1.inDataCounter = c.inDataCounter :=
  ⟨(within_resData cfg data len c).ctr.2, (within_resData cfg data len c).ctr.1⟩

theorem keepCtr_reqData_zero (cfg : Cfg) (data : Option Bytes) (c : Conn) : KeepCtr c (reqData cfg data 0 c).1 := by
  obtain ⟨a, b⟩ := reqData_counters cfg data 0 c
  refine ⟨?_, b⟩
  rw [a]; split <;> rfl

theorem keepCtr_resData_zero (cfg : Cfg) (data : Option Bytes) (c : Conn) : KeepCtr c (resData cfg data 0 c).1 := by
  obtain ⟨a, b⟩ := resData_counters cfg data 0 c
  refine ⟨b, ?_⟩
  rw [a]; split <;> rfl

theorem keepCtr_reqClose (cfg : Cfg) (c : Conn) : KeepCtr c (reqClose cfg c).1 := by
  rw [reqClose_eq]
  exact (keeps_markClosedIn (m := 0) c).ctr.trans (keepCtr_reqData_zero ..)

theorem keepCtr_connClose (cfg : Cfg) (c : Conn) : KeepCtr c (connClose cfg c).1 := by
  rw [connClose_fst]
  exact ((((keeps_markClosedIn (m := 0) c).trans (keeps_markClosedOut _)).ctr).trans (keepCtr_reqData_zero ..)).trans
    (keepCtr_resData_zero ..)

/-- what one call adds to the inbound counter, in the state it is issued in -/
def callCountedReq (c : Conn) : Call → Nat
  | .req d => if reqCounted c d.length = true then d.length else 0
  | _ => 0

def callCountedRes (c : Conn) : Call → Nat
  | .res d => if resCounted c d.length = true then d.length else 0
  | _ => 0

theorem runCall_counters (cfg : Cfg) (c : Conn) (call : Call) :
    (runCall cfg c call).inDataCounter = c.inDataCounter + callCountedReq c call ∧
    (runCall cfg c call).outDataCounter = c.outDataCounter + callCountedRes c call := by
  cases call with
  | req d => exact ⟨(reqData_counters cfg (some d) d.length c).1, (reqData_counters cfg (some d) d.length c).2⟩
  | res d => exact ⟨(resData_counters cfg (some d) d.length c).2, (resData_counters cfg (some d) d.length c).1⟩
  | close => exact keepCtr_connClose cfg c
  | reqClose => exact keepCtr_reqClose cfg c
  | «open» => exact (keeps_connOpen (m := 0) c).ctr
  | txFreed => exact (within_txFreedLoop (m := 0) _ c 0).ctr

/-- the request bytes COUNTED along a history from `c` (each request data call looked at in the state it is issued in) -/
def countedReq (cfg : Cfg) : Conn → List Call → Nat
  | _, [] => 0
  | c, call :: rest => callCountedReq c call + countedReq cfg (runCall cfg c call) rest

def countedRes (cfg : Cfg) : Conn → List Call → Nat
  | _, [] => 0
  | c, call :: rest => callCountedRes c call + countedRes cfg (runCall cfg c call) rest

/- From here on a call is what `runCall_counters` says of it. The inductions below apply their hypothesis for `rest` in the state
   `runCall cfg c0 call`; the unifier first tries the state `c0` itself, and to refute `c0 =?= runCall cfg c0 .close` it expands both
   sides field by field (`Conn` is a structure, so eta applies) and evaluates `connClose` on the way - two whole data calls. With
   `runCall` irreducible the test fails at once. -/
attribute [local irreducible] runCall

theorem history_inDataCounter (cfg : Cfg) (c0 : Conn) (calls : List Call) :
    (runCalls cfg c0 calls).inDataCounter = c0.inDataCounter + countedReq cfg c0 calls := by
  induction calls generalizing c0 with
  | nil => rfl
  | cons call rest ih =>
    rw [runCalls_cons, ih, (runCall_counters cfg c0 call).1]
    exact Nat.add_assoc ..

theorem history_outDataCounter (cfg : Cfg) (c0 : Conn) (calls : List Call) :
    (runCalls cfg c0 calls).outDataCounter = c0.outDataCounter + countedRes cfg c0 calls := by
  induction calls generalizing c0 with
  | nil => rfl
  | cons call rest ih =>
    rw [runCalls_cons, ih, (runCall_counters cfg c0 call).2]
    exact Nat.add_assoc ..

def offeredReq : List Call → Nat
  | [] => 0
  | .req d :: rest => d.length + offeredReq rest
  | _ :: rest => offeredReq rest

def offeredRes : List Call → Nat
  | [] => 0
  | .res d :: rest => d.length + offeredRes rest
  | _ :: rest => offeredRes rest

/-- every request data call of the history is counted in the state it is issued in (none is answered by an early return) -/
def AllReqCounted (cfg : Cfg) : Conn → List Call → Prop
  | _, [] => True
  | c, .req d :: rest => reqCounted c d.length = true ∧ AllReqCounted cfg (runCall cfg c (.req d)) rest
  | c, call :: rest => AllReqCounted cfg (runCall cfg c call) rest

def AllResCounted (cfg : Cfg) : Conn → List Call → Prop
  | _, [] => True
  | c, .res d :: rest => resCounted c d.length = true ∧ AllResCounted cfg (runCall cfg c (.res d)) rest
  | c, call :: rest => AllResCounted cfg (runCall cfg c call) rest

/-- every request data call of the history returns STREAM_DATA, STREAM_DATA_OTHER or STREAM_TUNNEL -/
def AllReqAccepted (cfg : Cfg) : Conn → List Call → Prop
  | _, [] => True
  | c, .req d :: rest => Accepted (reqData cfg (some d) d.length c).2 ∧ AllReqAccepted cfg (runCall cfg c (.req d)) rest
  | c, call :: rest => AllReqAccepted cfg (runCall cfg c call) rest

def AllResAccepted (cfg : Cfg) : Conn → List Call → Prop
  | _, [] => True
  | c, .res d :: rest => Accepted (resData cfg (some d) d.length c).2 ∧ AllResAccepted cfg (runCall cfg c (.res d)) rest
  | c, call :: rest => AllResAccepted cfg (runCall cfg c call) rest

theorem countedReq_eq_offered (cfg : Cfg) (c0 : Conn) (calls : List Call) (h : AllReqCounted cfg c0 calls) :
    countedReq cfg c0 calls = offeredReq calls := by
  induction calls generalizing c0 with
  | nil => rfl
  | cons call rest ih =>
    cases call with
    | req d =>
      obtain ⟨h1, h2⟩ := h
      show callCountedReq c0 (.req d) + countedReq cfg (runCall cfg c0 (.req d)) rest = d.length + offeredReq rest
      rw [ih _ h2]
      show (if reqCounted c0 d.length = true then d.length else 0) + offeredReq rest = d.length + offeredReq rest
      rw [if_pos h1]
    | _ => show 0 + countedReq cfg (runCall cfg c0 _) rest = offeredReq rest; rw [ih _ h]; exact Nat.zero_add _

theorem countedRes_eq_offered (cfg : Cfg) (c0 : Conn) (calls : List Call) (h : AllResCounted cfg c0 calls) :
    countedRes cfg c0 calls = offeredRes calls := by
  induction calls generalizing c0 with
  | nil => rfl
  | cons call rest ih =>
    cases call with
    | res d =>
      obtain ⟨h1, h2⟩ := h
      show callCountedRes c0 (.res d) + countedRes cfg (runCall cfg c0 (.res d)) rest = d.length + offeredRes rest
      rw [ih _ h2]
      show (if resCounted c0 d.length = true then d.length else 0) + offeredRes rest = d.length + offeredRes rest
      rw [if_pos h1]
    | _ => show 0 + countedRes cfg (runCall cfg c0 _) rest = offeredRes rest; rw [ih _ h]; exact Nat.zero_add _

/-- **C09, byte counters, inbound**: in a history none of whose request data calls is answered by an early return, the inbound counter
    of the final state is the start value plus the sum of the lengths of all request chunks offered -/
theorem history_inDataCounter_offered (cfg : Cfg) (c0 : Conn) (calls : List Call) (h : AllReqCounted cfg c0 calls) :
    (runCalls cfg c0 calls).inDataCounter = c0.inDataCounter + offeredReq calls := by
  rw [history_inDataCounter, countedReq_eq_offered cfg c0 calls h]

theorem history_outDataCounter_offered (cfg : Cfg) (c0 : Conn) (calls : List Call) (h : AllResCounted cfg c0 calls) :
    (runCalls cfg c0 calls).outDataCounter = c0.outDataCounter + offeredRes calls := by
  rw [history_outDataCounter, countedRes_eq_offered cfg c0 calls h]

theorem allReqCounted_of_accepted (cfg : Cfg) (c0 : Conn) (calls : List Call) (h : AllReqAccepted cfg c0 calls) :
    AllReqCounted cfg c0 calls := by
  induction calls generalizing c0 with
  | nil => trivial
  | cons call rest ih =>
    cases call with
    | req d => exact ⟨(keeps_reqDataCore cfg (some d) d.length c0).2 h.1, ih _ h.2⟩
    | _ => exact ih _ h

theorem allResCounted_of_accepted (cfg : Cfg) (c0 : Conn) (calls : List Call) (h : AllResAccepted cfg c0 calls) :
    AllResCounted cfg c0 calls := by
  induction calls generalizing c0 with
  | nil => trivial
  | cons call rest ih =>
    cases call with
    | res d => exact ⟨(within_resDataCore cfg (some d) d.length c0).2 h.1, ih _ h.2⟩
    | _ => exact ih _ h

/-- **in the property's words**: in a history whose request data calls all return STREAM_DATA, STREAM_DATA_OTHER or STREAM_TUNNEL, the
    inbound counter equals the bytes offered (no hypothesis on the chunk lengths is needed: an empty chunk on a stream that is not CLOSED
    returns STREAM_CLOSED, and a counted empty chunk adds 0) -/
theorem history_inDataCounter_accepted (cfg : Cfg) (c0 : Conn) (calls : List Call) (h : AllReqAccepted cfg c0 calls) :
    (runCalls cfg c0 calls).inDataCounter = c0.inDataCounter + offeredReq calls :=
  history_inDataCounter_offered cfg c0 calls (allReqCounted_of_accepted cfg c0 calls h)

theorem history_outDataCounter_accepted (cfg : Cfg) (c0 : Conn) (calls : List Call) (h : AllResAccepted cfg c0 calls) :
    (runCalls cfg c0 calls).outDataCounter = c0.outDataCounter + offeredRes calls :=
  history_outDataCounter_offered cfg c0 calls (allResCounted_of_accepted cfg c0 calls h)

theorem countedReq_le_offered (cfg : Cfg) (c0 : Conn) (calls : List Call) : countedReq cfg c0 calls ≤ offeredReq calls := by
  induction calls generalizing c0 with
  | nil => exact Nat.le_refl _
  | cons call rest ih =>
    cases call with
    | req d =>
      show (if reqCounted c0 d.length = true then d.length else 0) + countedReq cfg (runCall cfg c0 (.req d)) rest ≤ d.length + offeredReq rest
      have := ih (runCall cfg c0 (.req d))
      split <;> omega
    | _ => show 0 + countedReq cfg (runCall cfg c0 _) rest ≤ offeredReq rest; rw [Nat.zero_add]; exact ih _

/-- a fresh connection parser, htp_connp_open, two request chunks (5 and 7 bytes) and one response chunk (10 bytes): the counters are
    5 + 7 and 10 -/
example :
    (runCalls {} {} [.open, .req (b!"GET /"), .req (b!" HTTP/1"), .res (b!"HTTP/1.1 2")]).inDataCounter = 5 + 7 ∧
    (runCalls {} {} [.open, .req (b!"GET /"), .req (b!" HTTP/1"), .res (b!"HTTP/1.1 2")]).outDataCounter = 10 := by decide +kernel

/-- **the clause without the hypothesis is false** (in the model as in the library, where htp_connp_req_data returns before
    htp_conn_track_inbound_data): once a request call has put the stream into ERROR (here: the REQUEST_URI_NORMALIZE callback, callback
    number 1, returns HTP_ERROR - the call itself is still counted), the bytes of every later request call are offered but not counted -
    21 bytes offered, 18 counted -/
theorem inDataCounter_lt_offered_after_error :
    let c0 : Conn := { policy := [(1, .error)] }
    let calls : List Call := [.open, .req (b!"GET / HTTP/1.0\r\n\r\n"), .req (b!"abc")]
    (reqData {} (some (b!"GET / HTTP/1.0\r\n\r\n")) 18 (runCalls {} c0 [.open])).2 = STREAM_ERROR ∧
    (reqData {} (some (b!"abc")) 3 (runCalls {} c0 (calls.take 2))).2 = STREAM_ERROR ∧
    offeredReq calls = 21 ∧ (runCalls {} c0 calls).inDataCounter = 18 := by decide +kernel

/-- `AllReqAccepted` is sufficient, not necessary: the call that ENTERS the error state is counted although it returns STREAM_ERROR
    (what has to be excluded is only a call ISSUED on a stream in ERROR / STOP, on a parser without transaction outside REQ_IDLE, or an
    empty chunk on a stream that is not CLOSED - and the last adds nothing to the sum) -/
example :
    let c0 : Conn := { policy := [(1, .error)] }
    reqCounted (runCalls {} c0 [.open]) 18 = true ∧ reqCounted (runCalls {} c0 [.open, .req (b!"GET / HTTP/1.0\r\n\r\n")]) 3 = false := by
  decide +kernel

end Htp.Conn
