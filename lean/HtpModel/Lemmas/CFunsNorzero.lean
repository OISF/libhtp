/- The two NUL-skipping bstr primitives as translated in HtpModel/Gen/CFuns.lean = their models (all inputs), by the loop rule:
   * bstr_util_cmp_mem_nocasenorzero = `Bstr.cmpMemNocaseNorzero`: the main loop over `(p1, p2)` (a NUL of data1 is a `continue`) is left
     into the trailing-NUL loop and the final length comparison (`cmp_norzero_trail`) when either string is used up;
   * bstr_util_mem_index_of_mem_nocasenorzero = `Bstr.indexOfMemNocaseNorzero`: the inner loop decides `Bstr.prefixMatchNorzero`,
     the outer loop is the first-match search of `CFunsSearch` with `continue` at a NUL.
   Every read inside the arrays; every loop finishes within `len1 + 1` turns. -/
import HtpModel.Lemmas.CFunsSearch
namespace Htp.CFuns
open Htp Htp.CSem Htp.Gen.C Htp.Gen

/-- on a NUL the inner loop does `j--; continue` and the for-increment `j++`, on a size_t: the identity, also when `j = 0` and the
    decrement wraps to 2^64-1 -/
theorem u64_pred_succ (j : Nat) (h : j < 18446744073709551616) : u64 (u64 ((j : Int) - 1) + 1) = (j : Int) := by
  unfold u64; omega

theorem u64_pred_succ_zero : u64 (u64 (0 - 1) + 1) = 0 := by decide

abbrev SZ (d1 d2 : Bytes) (p1 p2 : Nat) : St_bstr_util_cmp_mem_nocasenorzero :=
  { len1 := d1.length, len2 := d2.length, p1 := p1, p2 := p2 }

theorem cmp_norzero_trail (F : Nat) (d1 d2 : Bytes) (h1 : d1.length < 9223372036854775808) (p2 : Nat) (hp2 : p2 ≤ d2.length)
    (n p1 : Nat) (hp1 : p1 ≤ d1.length) (hend : p1 = d1.length ∨ p2 = d2.length) (hn : d1.length - p1 < n) :
    retVal (seqS (whileF (bstr_util_cmp_mem_nocasenorzero_cond1 F d1 d2) (bstr_util_cmp_mem_nocasenorzero_body1 F d1 d2)
              (bstr_util_cmp_mem_nocasenorzero_incr1 F d1 d2) n)
            (bstr_util_cmp_mem_nocasenorzero_rest1 F d1 d2) (SZ d1 d2 p1 p2))
      = some (Bstr.cmpMemNocaseNorzero (d1.drop p1) (d2.drop p2)) := by
  refine loop_eq retVal (SZ d1 d2 · p2) (fun p1 => p1 ≤ d1.length ∧ (p1 = d1.length ∨ p2 = d2.length)) (d1.length - ·)
    (fun p1 => some (Bstr.cmpMemNocaseNorzero (d1.drop p1) (d2.drop p2))) ?_ n p1 ⟨hp1, hend⟩ hn
  intro p1 ⟨hp1, hend⟩ again ih
  cases ha : d1.drop p1 with
  | nil =>
    have l1 : p1 = d1.length := Nat.le_antisymm hp1 (le_of_drop_nil ha)
    subst l1
    cases hb : d2.drop p2 with
    | nil =>
      have l2 : p2 = d2.length := Nat.le_antisymm hp2 (le_of_drop_nil hb)
      simp [turn, bstr_util_cmp_mem_nocasenorzero_cond1, bstr_util_cmp_mem_nocasenorzero_rest1, iteS_bind, andL, l2,
        Bstr.cmpMemNocaseNorzero]
    | cons y u =>
      have l2 : p2 ≠ d2.length := Nat.ne_of_lt (lt_of_drop_cons hb)
      simp [turn, bstr_util_cmp_mem_nocasenorzero_cond1, bstr_util_cmp_mem_nocasenorzero_rest1, iteS_bind, andL, l2,
        Int.natCast_inj, Bstr.cmpMemNocaseNorzero]
  | cons x t =>
    have l1 := lt_of_drop_cons ha
    have l2 : p2 = d2.length := hend.resolve_left (Nat.ne_of_lt l1)
    have hb : d2.drop p2 = [] := by rw [l2]; exact List.drop_length
    have := ih (p1 + 1) ⟨l1, Or.inr l2⟩ (by omega)
    rw [drop_succ_of_drop ha, hb] at this
    by_cases hx : x = 0
    · simpa [turn, bstr_util_cmp_mem_nocasenorzero_cond1, bstr_util_cmp_mem_nocasenorzero_body1, bstr_util_cmp_mem_nocasenorzero_incr1,
        andL, l1, rd_of_drop ha, toNat_eq_zero, u64_succ p1 (by omega), hb, hx, SZ, Bstr.cmpMemNocaseNorzero] using this
    · simp [turn, bstr_util_cmp_mem_nocasenorzero_cond1, bstr_util_cmp_mem_nocasenorzero_rest1, iteS_bind, andL, l1, Nat.ne_of_lt l1,
        Int.natCast_inj, rd_of_drop ha, toNat_eq_zero, hb, hx, Bstr.cmpMemNocaseNorzero]

theorem bstr_util_cmp_mem_nocasenorzero_eq (d1 d2 : Bytes) (h1 : d1.length < 9223372036854775808) (h2 : d2.length < 9223372036854775808)
    (fuel : Nat) (hf : d1.length < fuel) :
    (bstr_util_cmp_mem_nocasenorzero fuel d1 d2 d1.length d2.length).map (·.1) = some (Bstr.cmpMemNocaseNorzero d1 d2) := by
  unfold bstr_util_cmp_mem_nocasenorzero
  rw [run_val]
  refine loop_eq retVal (fun p : Nat × Nat => SZ d1 d2 p.1 p.2) (fun p => p.1 ≤ d1.length ∧ p.2 ≤ d2.length) (d1.length - ·.1)
    (fun p => some (Bstr.cmpMemNocaseNorzero (d1.drop p.1) (d2.drop p.2))) ?_ fuel (0, 0) ⟨Nat.zero_le _, Nat.zero_le _⟩ hf
  intro ⟨p1, p2⟩ ⟨hp1, hp2⟩ again ih
  dsimp only at hp1 hp2 ih ⊢
  have exit : ∀ hend : p1 = d1.length ∨ p2 = d2.length, retVal (bstr_util_cmp_mem_nocasenorzero_rest2 fuel d1 d2 (SZ d1 d2 p1 p2))
      = some (Bstr.cmpMemNocaseNorzero (d1.drop p1) (d2.drop p2)) :=
    fun hend => cmp_norzero_trail fuel d1 d2 h1 p2 hp2 fuel p1 hp1 hend (by omega)
  cases ha : d1.drop p1 with
  | nil =>
    have l1 : p1 = d1.length := Nat.le_antisymm hp1 (le_of_drop_nil ha)
    rw [← ha, ← exit (Or.inl l1)]
    simp [turn, bstr_util_cmp_mem_nocasenorzero_cond2, l1]
  | cons x t =>
    have l1 := lt_of_drop_cons ha
    cases hb : d2.drop p2 with
    | nil =>
      have l2 : p2 = d2.length := Nat.le_antisymm hp2 (le_of_drop_nil hb)
      rw [← ha, ← hb, ← exit (Or.inr l2)]
      simp [turn, bstr_util_cmp_mem_nocasenorzero_cond2, l2]
    | cons y u =>
      have l2 := lt_of_drop_cons hb
      have i1 := ih (p1 + 1, p2) ⟨l1, hp2⟩ (by dsimp only; omega)
      have i2 := ih (p1 + 1, p2 + 1) ⟨l1, l2⟩ (by dsimp only; omega)
      simp only [drop_succ_of_drop ha, drop_succ_of_drop hb, hb] at i1 i2
      -- the turn, evaluated once: a tree of tests on the two bytes with `again` at two leaves
      have e : retVal (turn (bstr_util_cmp_mem_nocasenorzero_cond2 fuel d1 d2) (bstr_util_cmp_mem_nocasenorzero_body2 fuel d1 d2)
            (bstr_util_cmp_mem_nocasenorzero_incr2 fuel d1 d2) again (bstr_util_cmp_mem_nocasenorzero_rest2 fuel d1 d2) (SZ d1 d2 p1 p2))
          = if x = 0 then some (Bstr.cmpMemNocaseNorzero t (y :: u))
            else if cTolower x = cTolower y then some (Bstr.cmpMemNocaseNorzero t u)
            else some (if cTolower x < cTolower y then -1 else 1) := by
        simp only [turn, bstr_util_cmp_mem_nocasenorzero_cond2, bstr_util_cmp_mem_nocasenorzero_body2,
          bstr_util_cmp_mem_nocasenorzero_incr2, SZ, Int.ofNat_lt, l1, l2, decide_true, Bool.and_self, Option.bind_some, if_true,
          go_seqS, go_iteS, go_assignS, go_contS, go_skipS, go_ret, retS, rd_of_drop ha, rd_of_drop hb, toNat_int_eq_zero, tolowerI_toNat,
          toNat_int_inj, u64_succ p1 (by omega), u64_succ p2 (by omega), UInt8.lt_iff_toNat_lt, Int.ofNat_lt, decide_eq_true_eq,
          Option.map_some, ne_eq, decide_not, Bool.not_eq_true', decide_eq_false_iff_not, ite_not, retVal_ite, retVal_ret, i1, i2]
      rw [e]
      by_cases hx : x = 0
      · simp [Bstr.cmpMemNocaseNorzero, hx]
      · by_cases hxy : cTolower x = cTolower y <;> simp [Bstr.cmpMemNocaseNorzero, hx, hxy]

abbrev SJ (hay needle : Bytes) (i j k : Nat) : St_bstr_util_mem_index_of_mem_nocasenorzero :=
  { len1 := hay.length, len2 := needle.length, i := i, j := j, k := k }

/-- the inner loop from `(i, j, k)` followed by `if (j == len2) return i;` -/
theorem index_norzero_at (F : Nat) (hay needle : Bytes) (h1 : hay.length < 18446744073709551616) (i : Nat) (hi : i < 2147483648)
    (n j k : Nat) (hjk : j ≤ k) (hjl : j ≤ needle.length) (hn : hay.length - k < n) :
    ∃ j' k', seqS (whileF (bstr_util_mem_index_of_mem_nocasenorzero_cond1 F hay needle) (bstr_util_mem_index_of_mem_nocasenorzero_body1 F hay needle)
                (bstr_util_mem_index_of_mem_nocasenorzero_incr1 F hay needle) n)
              (bstr_util_mem_index_of_mem_nocasenorzero_rest1 F hay needle) (SJ hay needle i j k)
      = if Bstr.prefixMatchNorzero (hay.drop k) (needle.drop j) then some (.ret (SJ hay needle i j' k') i)
        else some (.next (SJ hay needle i j' k')) := by
  refine loop_post (fun jk : Nat × Nat => SJ hay needle i jk.1 jk.2) (fun jk => jk.1 ≤ jk.2 ∧ jk.1 ≤ needle.length) (hay.length - ·.2)
    (fun jk r => ∃ j' k', r = if Bstr.prefixMatchNorzero (hay.drop jk.2) (needle.drop jk.1) then some (.ret (SJ hay needle i j' k') i)
      else some (.next (SJ hay needle i j' k'))) ?_ n (j, k) ⟨hjk, hjl⟩ hn
  intro ⟨j, k⟩ ⟨hjk, hjl⟩ again ih
  dsimp only at hjk hjl ih ⊢
  have hi32 := i32_nat i hi
  cases hy : needle.drop j with
  | nil =>
    have l2 : j = needle.length := Nat.le_antisymm hjl (le_of_drop_nil hy)
    exact ⟨j, k, by simp [turn, bstr_util_mem_index_of_mem_nocasenorzero_cond1, bstr_util_mem_index_of_mem_nocasenorzero_rest1,
      iteS_bind, retS, l2, hi32, Bstr.prefixMatchNorzero]⟩
  | cons y u =>
    have l2 := lt_of_drop_cons hy
    have n2 : ¬ ((j : Int) = needle.length) := by omega
    cases hx : hay.drop k with
    | nil =>
      exact ⟨j, k, by simp [turn, bstr_util_mem_index_of_mem_nocasenorzero_cond1, bstr_util_mem_index_of_mem_nocasenorzero_rest1,
        iteS_bind, skipS, l2, Nat.not_lt.2 (le_of_drop_nil hx), n2, Bstr.prefixMatchNorzero]⟩
    | cons x t =>
      have l1 := lt_of_drop_cons hx
      have hu2 := u64_succ k (by omega)
      by_cases hx0 : x = 0
      · obtain ⟨j', k', h⟩ := ih (j, k + 1) ⟨Nat.le_succ_of_le hjk, hjl⟩ (Nat.sub_lt_sub_left l1 (Nat.lt_succ_self k))
        rw [drop_succ_of_drop hx, hy] at h
        exact ⟨j', k', by simpa [turn, bstr_util_mem_index_of_mem_nocasenorzero_cond1, bstr_util_mem_index_of_mem_nocasenorzero_body1,
          bstr_util_mem_index_of_mem_nocasenorzero_incr1, l1, l2, rd_of_drop hx, toNat_eq_zero, hx0, u64_pred_succ j (by omega), hu2, SJ,
          Bstr.prefixMatchNorzero] using h⟩
      · by_cases hxy : cToupper x = cToupper y
        · obtain ⟨j', k', h⟩ := ih (j + 1, k + 1) ⟨Nat.succ_le_succ hjk, l2⟩ (Nat.sub_lt_sub_left l1 (Nat.lt_succ_self k))
          rw [drop_succ_of_drop hx, drop_succ_of_drop hy] at h
          exact ⟨j', k', by simpa [turn, bstr_util_mem_index_of_mem_nocasenorzero_cond1, bstr_util_mem_index_of_mem_nocasenorzero_body1,
            bstr_util_mem_index_of_mem_nocasenorzero_incr1, l1, l2, rd_of_drop hx, rd_of_drop hy, toupperI_toNat, toNat_int_inj,
            toNat_eq_zero, hx0, hxy, u64_succ j (by omega), hu2, SJ, Bstr.prefixMatchNorzero, Bstr.eqUpper] using h⟩
        · exact ⟨j, k, by simp [turn, bstr_util_mem_index_of_mem_nocasenorzero_cond1, bstr_util_mem_index_of_mem_nocasenorzero_body1,
            bstr_util_mem_index_of_mem_nocasenorzero_rest1, iteS_bind, skipS, l1, l2, n2, rd_of_drop hx, rd_of_drop hy, toupperI_toNat,
            toNat_int_inj, toNat_eq_zero, hx0, hxy, Bstr.prefixMatchNorzero, Bstr.eqUpper]⟩

/-- `h1`: so that `(int) i` is `i` -/
theorem bstr_util_mem_index_of_mem_nocasenorzero_eq (hay needle : Bytes) (h1 : hay.length ≤ 2147483648) (fuel : Nat)
    (hf : hay.length < fuel) :
    (bstr_util_mem_index_of_mem_nocasenorzero fuel hay needle hay.length needle.length).map (·.1)
      = some (match Bstr.indexOfMemNocaseNorzero hay needle with | some i => (i : Int) | none => -1) := by
  unfold bstr_util_mem_index_of_mem_nocasenorzero
  rw [run_val]
  refine search_outer (SJ hay needle) hay (fun a => !(a.head? == some 0) && Bstr.prefixMatchNorzero a needle)
    (Bstr.indexOfNorzeroAux needle) (fun _ => rfl)
    (fun h t i => by by_cases hz : h = 0 <;> simp [Bstr.indexOfNorzeroAux, hz])
    (fun i j k => by simp [bstr_util_mem_index_of_mem_nocasenorzero_cond2]) (fun i j k hi => ?_)
    (fun i j k hi => by simp [bstr_util_mem_index_of_mem_nocasenorzero_incr2, assignS, u64_succ i (by omega)]) (fun _ => rfl)
    hay 0 0 0 fuel rfl hf
  -- the body at `i`: `continue` on a NUL, otherwise the inner loop from `(i, 0, i)` and the test of `j`
  obtain ⟨x, t, hd⟩ : ∃ x t, hay.drop i = x :: t := ⟨_, _, List.drop_eq_getElem_cons hi⟩
  have r1 := rd_of_drop hd
  by_cases hx : x = 0
  · refine ⟨j, i, .inr ⟨by simp [hd, hx], ?_⟩⟩
    simp [bstr_util_mem_index_of_mem_nocasenorzero_body2, seqS, assignS, iteS_bind, contS, r1, hx]
  · obtain ⟨j', k', h⟩ := index_norzero_at fuel hay needle (by omega) i (by omega) fuel 0 i (Nat.zero_le _) (Nat.zero_le _) (by omega)
    rw [List.drop_zero] at h
    refine ⟨j', k', .inl ?_⟩
    have ht : (!((hay.drop i).head? == some 0) && Bstr.prefixMatchNorzero (hay.drop i) needle)
        = Bstr.prefixMatchNorzero (hay.drop i) needle := by simp [hd, hx]
    rw [ht, ← h]
    simp [bstr_util_mem_index_of_mem_nocasenorzero_body2, bstr_util_mem_index_of_mem_nocasenorzero_loop1, seqS, assignS, iteS_bind,
      skipS, r1, toNat_eq_zero, hx]
    rfl

end Htp.CFuns
