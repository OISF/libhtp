/- htp_conn_track_inbound_data / htp_conn_track_outbound_data as translated in HtpModel/Gen/CFuns.lean: the counter grows by exactly the length
   offered (the int64 store does not wrap below 2^63). -/
import HtpModel.Gen.CFuns
namespace Htp.CFuns
open Htp Htp.CSem Htp.Gen.C

theorem htp_conn_track_inbound_data_eq (fuel : Nat) (len ctr : Int) (h0 : 0 ≤ ctr) (hl : 0 ≤ len)
    (hb : ctr + len < 9223372036854775808) :
    htp_conn_track_inbound_data fuel (len := len) (conn_in_data_counter := ctr)
      = some (0, { len := len, conn_in_data_counter := ctr + len }) := by
  have hw : i64 (ctr + len) = ctr + len := i64_id (by omega) hb
  simp [htp_conn_track_inbound_data, htp_conn_track_inbound_data_stmt, run, seqS, iteS, retS, skipS, assignS, hw]

theorem htp_conn_track_outbound_data_eq (fuel : Nat) (len ctr : Int) (h0 : 0 ≤ ctr) (hl : 0 ≤ len)
    (hb : ctr + len < 9223372036854775808) :
    htp_conn_track_outbound_data fuel (len := len) (conn_out_data_counter := ctr)
      = some (0, { len := len, conn_out_data_counter := ctr + len }) := by
  have hw : i64 (ctr + len) = ctr + len := i64_id (by omega) hb
  simp [htp_conn_track_outbound_data, htp_conn_track_outbound_data_stmt, run, seqS, iteS, retS, skipS, assignS, hw]

end Htp.CFuns
