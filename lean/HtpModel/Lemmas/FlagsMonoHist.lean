/- C11 over whole runs. Transactions are identified by uid. `Step c c'` says: every transaction stored in `c'` either continues one stored
   in `c` (same uid, every bit kept: `TxLe`) or has a uid that was not handed out before. `Rel c c'` is a `Step` from every hygienic
   state (`Hyg`, Lemmas/TxList.lean); carrying the hygiene is what makes it transitive even when a transaction is destroyed in between: a
   uid is never used again. `Rel` is the statement of the flags family in its own terms; no model function is walked for it: it is what
   the walk's `TxsRel` (Lemmas/TxsRel.lean) says once all clauses but the flags are dropped (`Rel.of_txsRel`), so it holds between the
   states before and after every model function, call and history. `FlagsLe`, the indicator bits on lookups by uid, follows from it
   (`flagsLe_of_rel`) and, over call histories, from the flags clause of `TxCont` (`history_txCont`, Lemmas/ConnSweepHist.lean):
   `history_flags_monotone`; a uid is not used again (`uid_not_reused`). -/
import HtpModel.Lemmas.ConnSweepHist
namespace Htp.Conn
open Htp Htp.Gen

structure TxLe (t t' : Tx) : Prop where
  uid : t'.uid = t.uid
  flags : FlagSub t.flags t'.flags

theorem TxLe.refl (t : Tx) : TxLe t t := ⟨rfl, FlagSub.refl _⟩
theorem TxLe.trans {a b c : Tx} (h1 : TxLe a b) (h2 : TxLe b c) : TxLe a c := ⟨h2.uid.trans h1.uid, h1.flags.trans h2.flags⟩

structure Step (c c' : Conn) : Prop where
  hyg : Hyg c'
  next : c.nextUid ≤ c'.nextUid
  mem : ∀ t', some t' ∈ c'.txs → (∃ t, some t ∈ c.txs ∧ TxLe t t') ∨ c.nextUid ≤ t'.uid

structure Rel (c c' : Conn) : Prop where
  step : Hyg c → Step c c'

theorem Rel.refl (c : Conn) : Rel c c := ⟨fun h => ⟨h, Nat.le_refl _, fun t ht => .inl ⟨t, ht, TxLe.refl t⟩⟩⟩

theorem Rel.trans {a b c : Conn} (h1 : Rel a b) (h2 : Rel b c) : Rel a c := by
  refine ⟨fun ha => ?_⟩
  have s1 := h1.step ha
  have s2 := h2.step s1.hyg
  refine ⟨s2.hyg, Nat.le_trans s1.next s2.next, fun t'' ht'' => ?_⟩
  rcases s2.mem t'' ht'' with ⟨t', ht', l2⟩ | hn
  · rcases s1.mem t' ht' with ⟨t, ht, l1⟩ | hn
    · exact .inl ⟨t, ht, l1.trans l2⟩
    · exact .inr (by rw [l2.uid]; exact hn)
  · exact .inr (Nat.le_trans s1.next hn)

def FlagsLe (c c' : Conn) : Prop :=
  ∀ u t t', c.findTx u = some t → c'.findTx u = some t' → t.flags &&& t'.flags = t.flags

theorem FlagsLe.hasFlag {c c' : Conn} (h : FlagsLe c c') {u : Nat} {t t' : Tx} (h1 : c.findTx u = some t) (h2 : c'.findTx u = some t')
    (bit : Nat) (hb : hasFlag t.flags bit = true) : hasFlag t'.flags bit = true :=
  FlagSub.hasFlag (h u t t' h1 h2) bit hb

theorem FlagsLe.refl (c : Conn) : FlagsLe c c := by
  intro u t t' h1 h2
  rw [h1] at h2
  rw [← Option.some.inj h2]
  exact Nat.and_self _

/-- (`hmid` is `uid_not_reused` when the three states are related by `Rel`; over prefixes of ONE history compose the prefixes,
    `hp1.trans hp2`, and use `history_flags_monotone` once - its explicit arguments are the whole history first, then the prefix) -/
theorem FlagsLe.trans_present {a b c : Conn} (h1 : FlagsLe a b) (h2 : FlagsLe b c)
    (hmid : ∀ u, (a.findTx u).isSome → (c.findTx u).isSome → (b.findTx u).isSome) : FlagsLe a c := by
  intro u t t'' ha hc
  have hb := hmid u (by rw [ha]; rfl) (by rw [hc]; rfl)
  cases hf : b.findTx u with
  | none => rw [hf] at hb; exact absurd hb (by decide)
  | some t' => exact FlagSub.trans (h1 u t t' ha hf) (h2 u t' t'' hf hc)

theorem Rel.of_txsRel {c c' : Conn} (h : TxsRel c c') : Rel c c' :=
  ⟨fun hy => ⟨h.hyg hy, h.next, fun t' ht' => (h.mem t' ht').imp (fun ⟨t, ht, l⟩ => ⟨t, ht, l.uid, l.flags⟩) (·.1)⟩⟩

theorem flagsLe_of_rel {c c' : Conn} (h : Rel c c') (hy : Hyg c) : FlagsLe c c' :=
  fun _ _ _ h1 h2 => (find_of_mem TxLe.uid hy (h.step hy).mem h1 h2).flags

theorem uid_not_reused {a b c : Conn} (ha : Hyg a) (h1 : Rel a b) (h2 : Rel b c) {u : Nat}
    (hpa : (a.findTx u).isSome) (hpc : (c.findTx u).isSome) : (b.findTx u).isSome := by
  have s1 := h1.step ha
  have s2 := h2.step s1.hyg
  cases hfa : a.findTx u with
  | none => rw [hfa] at hpa; exact absurd hpa (by decide)
  | some t =>
    cases hfc : c.findTx u with
    | none => rw [hfc] at hpc; exact absurd hpc (by decide)
    | some t'' =>
      obtain ⟨hm, hu⟩ := findTx_mem hfa
      obtain ⟨hm'', hu''⟩ := findTx_mem hfc
      rcases s2.mem t'' hm'' with ⟨t', ht', l⟩ | hn
      · have := findTx_of_mem s1.hyg ht'
        rw [← l.uid, hu''] at this
        rw [this]; rfl
      · have := ha.lt t hm
        have := s1.next
        omega

theorem flagsLe_trans {a b c : Conn} (ha : Hyg a) (h1 : Rel a b) (h2 : Rel b c) : FlagsLe a c := flagsLe_of_rel (h1.trans h2) ha

/-- **C11 over whole histories: framing and host ambiguities stay flagged.** Whatever calls were made (`pre`) and whatever calls follow,
    a transaction that still exists has every indicator bit it had - for any stream, chunking, interleaving of request and response data,
    close calls and callback policy (`c0.policy` is arbitrary) -/
theorem history_flags_monotone (cfg : Cfg) (c0 : Conn) (h0 : Hyg c0) (calls pre : List Call) (hp : pre <+: calls) :
    FlagsLe (runCalls cfg c0 pre) (runCalls cfg c0 calls) :=
  fun _ _ _ h1 h2 => (history_txCont cfg c0 h0 calls pre hp h1 h2).flags

theorem history_flags_monotone_fresh (cfg : Cfg) (calls pre : List Call) (hp : pre <+: calls) :
    FlagsLe (runCalls cfg {} pre) (runCalls cfg {} calls) :=
  history_flags_monotone cfg {} hyg_init calls pre hp

theorem history_flags_monotone_policy (cfg : Cfg) (policy : List (Nat × CbAction)) (calls pre : List Call) (hp : pre <+: calls) :
    FlagsLe (runCalls cfg { policy := policy } pre) (runCalls cfg { policy := policy } calls) :=
  history_flags_monotone cfg _ (hyg_of_empty rfl) calls pre hp

theorem history_flag_sticky (cfg : Cfg) (c0 : Conn) (h0 : Hyg c0) (calls pre : List Call) (hp : pre <+: calls) (bit : Nat) {u : Nat} {t t' : Tx}
    (h1 : (runCalls cfg c0 pre).findTx u = some t) (hb : hasFlag t.flags bit = true)
    (h2 : (runCalls cfg c0 calls).findTx u = some t') : hasFlag t'.flags bit = true :=
  (history_flags_monotone cfg c0 h0 calls pre hp).hasFlag h1 h2 bit hb

theorem history_smuggling_sticky (cfg : Cfg) (c0 : Conn) (h0 : Hyg c0) (calls pre : List Call) (hp : pre <+: calls) {u : Nat} {t t' : Tx}
    (h1 : (runCalls cfg c0 pre).findTx u = some t) (hb : hasFlag t.flags REQUEST_SMUGGLING = true)
    (h2 : (runCalls cfg c0 calls).findTx u = some t') : hasFlag t'.flags REQUEST_SMUGGLING = true :=
  history_flag_sticky cfg c0 h0 calls pre hp REQUEST_SMUGGLING h1 hb h2

theorem history_host_ambiguous_sticky (cfg : Cfg) (c0 : Conn) (h0 : Hyg c0) (calls pre : List Call) (hp : pre <+: calls) {u : Nat} {t t' : Tx}
    (h1 : (runCalls cfg c0 pre).findTx u = some t) (hb : hasFlag t.flags HOST_AMBIGUOUS = true)
    (h2 : (runCalls cfg c0 calls).findTx u = some t') : hasFlag t'.flags HOST_AMBIGUOUS = true :=
  history_flag_sticky cfg c0 h0 calls pre hp HOST_AMBIGUOUS h1 hb h2

/-- a fresh connection parser, a request delivered in five chunks whose head has both `Transfer-Encoding: chunked` and `Content-Length`:
    REQUEST_SMUGGLING is not set on transaction 0 while the headers are still arriving, it is raised when the head is complete, and it is
    still set after the (chunked) body, after the response and after htp_connp_close, where both sides of the transaction are complete -/
example :
    let calls : List Call := [.open,
      .req (b!"POST /upload HTTP/1.1\r\n"),
      .req (b!"Host: example.com\r\n"),
      .req (b!"Transfer-Encoding: chunked\r\n"),
      .req (b!"Content-Length: 5\r\n\r\n"),
      .req (b!"5\r\nhello\r\n0\r\n\r\n"),
      .res (b!"HTTP/1.1 200 OK\r\nContent-Length: 2\r\n\r\nok"),
      .close]
    let smug (n : Nat) : Option Bool := ((runCalls {} {} (calls.take n)).findTx 0).map (fun t => hasFlag t.flags REQUEST_SMUGGLING)
    smug 1 = none ∧ smug 4 = some false ∧ smug 5 = some true ∧ smug 6 = some true ∧ smug 7 = some true ∧ smug 8 = some true ∧
    ((runCalls {} {} calls).findTx 0).map (fun t => (t.reqProgress, t.resProgress)) = some (5, 5) := by decide +kernel

end Htp.Conn
