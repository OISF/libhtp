/- What the model may do to ONE stored transaction: `TxCont t t'`, "`t'` continues `t`" - the same uid, and the clauses of five families:
   - indicator bits kept (`FlagSub`, Lemmas/Flags.lean; C11);
   - the four accounted lengths (`request_message_len`, `request_entity_len`, `response_message_len`, `response_entity_len`) not
     decreased (`Lens.LenLe`; C06 "with correct accounting": every write of the four fields in the model is `:= t.x + n`);
   - the partial statement about the request progress (`Prog.ProgLe`; C05 PARTIAL). Every writer of `reqProgress` sets a constant
     (1: txStateRequestStart, 2: reqProtocol, 3: reqBodyDetermine, 4: chunked end / closed stream in REQ_HEADERS,
     5: txStateRequestCompletePartial). Plain `≤` at a site needs the current value there, which only a state-indexed invariant (bound
     on in_tx's progress by `inState`) gives; that invariant is NOT proved. What is proved, for every function and with no invariant,
     is `ProgLe`: unchanged or set to a phase 1..5, and lowered only by a write of 1..4;
   - both header-repetition counters within HTP_MAX_HEADERS_REPETITIONS (`RepOKTx`; C10): the two fields are written by
     `processRequestHeader` / `processResponseHeader` only, through `addHeader`, which never steps over the cap;
   - a non-negative request Content-Length of identity-coded request bodies (`ClOKTx`): the two fields are written by
     `txProcessRequestHeaders` only, from `requestFraming`, which answers IDENTITY only with a parsed non-negative length.
   Every update of a stored transaction in the model is a continuation; the walks over the model (Lemmas/Conn.lean, TxWalk.lean,
   StateWalk*.lean) show it where they update (`tx_cont` for the usual write), and a relation between two states is asked to accept
   continuations only. The two writers whose clause needs an argument (`addHeader`, `requestFraming`) come last. -/
import HtpModel.Conn.Res
import HtpModel.Lemmas.Flags
namespace Htp.Conn
open Htp Htp.Gen

namespace Lens

def LenLe (t t' : Tx) : Prop :=
  t.reqMessageLen ≤ t'.reqMessageLen ∧ t.reqEntityLen ≤ t'.reqEntityLen ∧
  t.resMessageLen ≤ t'.resMessageLen ∧ t.resEntityLen ≤ t'.resEntityLen

theorem LenLe.refl (t : Tx) : LenLe t t := ⟨Nat.le_refl _, Nat.le_refl _, Nat.le_refl _, Nat.le_refl _⟩
theorem LenLe.trans {a b c : Tx} (h1 : LenLe a b) (h2 : LenLe b c) : LenLe a c :=
  ⟨Nat.le_trans h1.1 h2.1, Nat.le_trans h1.2.1 h2.2.1, Nat.le_trans h1.2.2.1 h2.2.2.1, Nat.le_trans h1.2.2.2 h2.2.2.2⟩

/-- closes `LenLe t t'` when `t'` is `t` with other fields changed, or with `+ n` on some of the four -/
macro "len_mono" : tactic =>
  `(tactic| first
    | exact LenLe.refl _
    | (refine ⟨?_, ?_, ?_, ?_⟩ <;> (try dsimp only) <;> omega))

end Lens

namespace Prog

def ProgLe (t t' : Tx) : Prop :=
  (t'.reqProgress = t.reqProgress ∨ (1 ≤ t'.reqProgress ∧ t'.reqProgress ≤ 5)) ∧
  (t.reqProgress ≤ 5 → t.reqProgress ≤ t'.reqProgress ∨ t'.reqProgress ≤ 4)

theorem ProgLe.refl (t : Tx) : ProgLe t t := ⟨.inl rfl, fun _ => .inl (Nat.le_refl _)⟩
theorem ProgLe.trans {a b c : Tx} (h1 : ProgLe a b) (h2 : ProgLe b c) : ProgLe a c := by
  unfold ProgLe at *
  omega

/-- closes `ProgLe t t'` when `t'` is `t` with other fields changed, or with `reqProgress` set to one of the constants -/
macro "prog_mono" : tactic =>
  `(tactic| first
    | exact ProgLe.refl _
    | (unfold ProgLe; (try dsimp only); omega))

end Prog

def RepOKTx (t : Tx) : Prop :=
  t.reqHeaderRepetitions ≤ Htp.Gen.MAX_HEADERS_REPETITIONS ∧ t.resHeaderRepetitions ≤ Htp.Gen.MAX_HEADERS_REPETITIONS

theorem repOKTx_new {t : Tx} (h1 : t.reqHeaderRepetitions = 0) (h2 : t.resHeaderRepetitions = 0) : RepOKTx t := by
  unfold RepOKTx
  rw [h1, h2]
  exact ⟨Nat.zero_le _, Nat.zero_le _⟩

def ClOKTx (t : Tx) : Prop := t.reqTransferCoding = CODING_IDENTITY → 0 ≤ t.reqContentLength

theorem clOKTx_new {t : Tx} (h : t.reqTransferCoding = CODING_UNKNOWN) : ClOKTx t := fun hi => by
  rw [h] at hi
  exact absurd hi (by decide)

structure TxCont (t t' : Tx) : Prop where
  uid : t'.uid = t.uid
  flags : FlagSub t.flags t'.flags
  lens : Lens.LenLe t t'
  prog : Prog.ProgLe t t'
  rep : RepOKTx t → RepOKTx t'
  cl : ClOKTx t → ClOKTx t'

theorem TxCont.refl (t : Tx) : TxCont t t := ⟨rfl, FlagSub.refl _, Lens.LenLe.refl _, Prog.ProgLe.refl _, id, id⟩
theorem TxCont.trans {a b c : Tx} (h1 : TxCont a b) (h2 : TxCont b c) : TxCont a c :=
  ⟨h2.uid.trans h1.uid, h1.flags.trans h2.flags, h1.lens.trans h2.lens, h1.prog.trans h2.prog, h2.rep ∘ h1.rep, h2.cl ∘ h1.cl⟩

/-- the usual write: it may OR into the flag word, add to the four lengths and set the request progress to a phase; the other fields
    that the clauses read are left alone -/
theorem TxCont.of_writes {t t' : Tx} (flags : FlagSub t.flags t'.flags) (lens : Lens.LenLe t t') (prog : Prog.ProgLe t t')
    (rest : t'.uid = t.uid ∧ t'.reqHeaderRepetitions = t.reqHeaderRepetitions ∧ t'.resHeaderRepetitions = t.resHeaderRepetitions ∧
      t'.reqTransferCoding = t.reqTransferCoding ∧ t'.reqContentLength = t.reqContentLength) : TxCont t t' := by
  obtain ⟨h1, h2, h3, h4, h5⟩ := rest
  refine ⟨h1, flags, lens, prog, ?_, ?_⟩
  · unfold RepOKTx; rw [h2, h3]; exact id
  · unfold ClOKTx; rw [h4, h5]; exact id

/-- closes `TxCont t t'` for the usual write (`TxCont.of_writes`) -/
macro "tx_cont" : tactic =>
  `(tactic| exact TxCont.of_writes (by flag_mono) (by len_mono) (by prog_mono) ⟨rfl, rfl, rfl, rfl, rfl⟩)

theorem addHeader_reps_capped (hs : List Parse.Header) (reps : Nat) (h : Parse.Header)
    (hr : reps ≤ MAX_HEADERS_REPETITIONS) :
    (addHeader hs reps h).2 ≤ MAX_HEADERS_REPETITIONS := by
  unfold addHeader
  split
  · exact hr
  · rename_i i _
    simp only
    split
    · exact hr
    · rename_i hc
      simp only [Bool.and_eq_true, decide_eq_true_eq, not_and] at hc
      show (if hasFlag (hs.getD i default).flags FIELD_REPEATED = true then reps + 1 else reps) ≤ MAX_HEADERS_REPETITIONS
      split
      · rename_i hrep
        have := hc hrep
        omega
      · exact hr

/-- IDENTITY is answered only without Transfer-Encoding, with a Content-Length, and with a length that parsed (not negative) -/
theorem requestFraming_identity (hs : List Parse.Header) (p : Int) (fl : Nat) (h : (requestFraming hs p fl).coding = CODING_IDENTITY) :
    (getHeaderC hs (b!"transfer-encoding")).isNone = true ∧ (getHeaderC hs (b!"content-length")).isSome = true ∧
    0 ≤ (requestFraming hs p fl).contentLength := by
  unfold requestFraming at h ⊢
  simp only [] at h ⊢
  cases hte : getHeaderC hs (b!"transfer-encoding") with
  | some te =>
    rw [hte] at h
    simp only at h
    split at h
    · exact absurd (show CODING_INVALID = CODING_IDENTITY from h) (by decide)
    · exact absurd (show CODING_CHUNKED = CODING_IDENTITY from h) (by decide)
  | none =>
    rw [hte] at h
    simp only at h ⊢
    cases hcl : getHeaderC hs (b!"content-length") with
    | none =>
      rw [hcl] at h
      exact absurd (show CODING_NO_BODY = CODING_IDENTITY from h) (by decide)
    | some cl =>
      rw [hcl] at h
      simp only at h ⊢
      split at h
      · exact absurd (show CODING_INVALID = CODING_IDENTITY from h) (by decide)
      · rename_i hn
        refine ⟨rfl, rfl, ?_⟩
        simp only [hn, if_false]
        omega

theorem clOKTx_framed (t : Tx) :
    ClOKTx { t with reqTransferCoding := (requestFraming t.reqHeaders t.protocolNumber t.flags).coding,
                    flags := (requestFraming t.reqHeaders t.protocolNumber t.flags).flags,
                    reqContentLength := if (getHeaderC t.reqHeaders (b!"transfer-encoding")).isNone &&
                                            (getHeaderC t.reqHeaders (b!"content-length")).isSome
                                        then (requestFraming t.reqHeaders t.protocolNumber t.flags).contentLength else t.reqContentLength } := by
  intro h
  obtain ⟨h1, h2, h3⟩ := requestFraming_identity _ _ _ h
  show 0 ≤ (if ((getHeaderC t.reqHeaders (b!"transfer-encoding")).isNone && (getHeaderC t.reqHeaders (b!"content-length")).isSome) = true
            then (requestFraming t.reqHeaders t.protocolNumber t.flags).contentLength else t.reqContentLength)
  rw [h1, h2]
  exact h3

end Htp.Conn
