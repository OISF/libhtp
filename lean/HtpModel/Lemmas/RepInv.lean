/- The repetition-counter invariant `RepOK` (Lemmas/TxsRel.lean: every stored transaction has both repetition counters within
   HTP_MAX_HEADERS_REPETITIONS) over a call and over histories. Nothing is proved function by function here: that every function keeps
   `RepOK` is the clause `rep` of `TxsRel`, which the walk of Lemmas/ConnSweep.lean carries (`.tx.rep`); this file reads it off for the
   states a request data call passes through and for every sequence of calls from the initial state. -/
import HtpModel.Lemmas.ConnSweepHist
namespace Htp.Conn
open Htp Htp.Gen

structure KeepRep (c c' : Conn) : Prop where
  keep : RepOK c → RepOK c'

theorem KeepRep.refl (c : Conn) : KeepRep c c := ⟨id⟩
theorem KeepRep.trans {a b c : Conn} (h1 : KeepRep a b) (h2 : KeepRep b c) : KeepRep a c := ⟨fun h => h2.keep (h1.keep h)⟩

theorem buffer_keepRep (c : Conn) (d' : Dir) : KeepRep c { c with inn := d' } := ⟨id⟩

theorem repOK_reqStoreChunk (d : Bytes) (c : Conn) (h : RepOK c) : RepOK (reqWakeOther (reqStoreChunk (some d) d.length c)) :=
  (keeps_reqWakeOther (m := 0) _).tx.rep h

theorem repOK_along_call (cfg : Cfg) (c0 : Conn) (h0 : RepOK c0) : ∀ c', CallReach cfg c0 c' → RepOK c' := by
  intro c' hr
  induction hr with
  | start => exact h0
  | step c1 hr1 hok _ _ ih => exact (keeps_reqHandleStateChange cfg _).tx.rep ((keeps_reqStateFn cfg c1).tx.rep ih)

end Htp.Conn
