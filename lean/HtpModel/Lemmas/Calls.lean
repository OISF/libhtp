/- The calls an embedder can make on a connection parser, and a history: a list of them, run one after the other. Every theorem over
   whole histories quantifies over `List Call`. A call is made of parts (`Part`: a data call with any chunk argument, the status write of
   a close, open, tx_freed), so that what every part keeps every call keeps (`runCall_inv_of_parts`) and every history
   (`runCalls_inv`, and `runCalls_inv_at` under a condition on each call in the state it is issued in; `runCalls_rel`; `runCalls_append`,
   `runCalls_snoc` for a history extended); the data-call lemmas hold for any chunk argument, so the two close calls need no cases of their
   own. Stream gaps (NULL data with a length) are not among the calls. At the end: which data calls get past their early returns
   (`reqCounted`, `resCounted`) and which answers say so (`Accepted`). -/
import HtpModel.Conn.Res
namespace Htp.Conn
open Htp Htp.Gen

inductive Call where
  | req (d : Bytes)      -- htp_connp_req_data(connp, ts, d, |d|)
  | res (d : Bytes)      -- htp_connp_res_data(connp, ts, d, |d|)
  | close                -- htp_connp_close
  | reqClose             -- htp_connp_req_close
  | open                 -- htp_connp_open
  | txFreed              -- htp_connp_tx_freed
  deriving Repr, DecidableEq, Inhabited

def runCall (cfg : Cfg) (c : Conn) : Call → Conn
  | .req d => (reqData cfg (some d) d.length c).1
  | .res d => (resData cfg (some d) d.length c).1
  | .close => (connClose cfg c).1
  | .reqClose => (reqClose cfg c).1
  | .open => connOpen c
  | .txFreed => (txFreed c).1

def runCalls (cfg : Cfg) (c : Conn) (calls : List Call) : Conn := calls.foldl (runCall cfg) c

@[simp] theorem runCalls_nil (cfg : Cfg) (c : Conn) : runCalls cfg c [] = c := rfl
@[simp] theorem runCalls_cons (cfg : Cfg) (c : Conn) (call : Call) (rest : List Call) :
    runCalls cfg c (call :: rest) = runCalls cfg (runCall cfg c call) rest := rfl
theorem runCalls_append (cfg : Cfg) (c : Conn) (l1 l2 : List Call) :
    runCalls cfg c (l1 ++ l2) = runCalls cfg (runCalls cfg c l1) l2 := by
  unfold runCalls; exact List.foldl_append

/-- the status write with which htp_connp_req_close and htp_connp_close begin: the stream is marked CLOSED unless it is in ERROR (the
    data call with the NULL chunk of length 0 follows) -/
def markClosedIn (c : Conn) : Conn :=
  if c.inn.status != STREAM_ERROR then { c with inn := { c.inn with status := STREAM_CLOSED } } else c
def markClosedOut (c : Conn) : Conn :=
  if c.out.status != STREAM_ERROR then { c with out := { c.out with status := STREAM_CLOSED } } else c

theorem markClosedIn_cases {P : Conn → Prop} (c : Conn) (err : c.inn.status = STREAM_ERROR → P c)
    (write : c.inn.status ≠ STREAM_ERROR → P { c with inn := { c.inn with status := STREAM_CLOSED } }) : P (markClosedIn c) := by
  unfold markClosedIn
  by_cases h : c.inn.status = STREAM_ERROR
  · rw [if_neg (by rw [h]; decide)]; exact err h
  · rw [if_pos (bne_iff_ne.mpr h)]; exact write h

theorem markClosedOut_cases {P : Conn → Prop} (c : Conn) (err : c.out.status = STREAM_ERROR → P c)
    (write : c.out.status ≠ STREAM_ERROR → P { c with out := { c.out with status := STREAM_CLOSED } }) : P (markClosedOut c) := by
  unfold markClosedOut
  by_cases h : c.out.status = STREAM_ERROR
  · rw [if_neg (by rw [h]; decide)]; exact err h
  · rw [if_pos (bne_iff_ne.mpr h)]; exact write h

theorem reqClose_eq (cfg : Cfg) (c : Conn) : reqClose cfg c = reqData cfg none 0 (markClosedIn c) := rfl
theorem connClose_fst (cfg : Cfg) (c : Conn) :
    (connClose cfg c).1 = (resData cfg none 0 (reqData cfg none 0 (markClosedOut (markClosedIn c))).1).1 := by
  -- unfolded first, so that `rfl` only goes through the two pair patterns and does not evaluate `reqData`
  unfold connClose markClosedIn markClosedOut
  rfl

/-- what the six calls are made of: a data call of either direction with ANY chunk argument (bytes, a gap, the NULL chunk of a close),
    the two status writes of the close calls, open, tx_freed -/
inductive Part where
  | req (data : Option Bytes) (len : Nat)
  | res (data : Option Bytes) (len : Nat)
  | markIn
  | markOut
  | open
  | txFreed

def runPart (cfg : Cfg) (c : Conn) : Part → Conn
  | .req data len => (reqData cfg data len c).1
  | .res data len => (resData cfg data len c).1
  | .markIn => markClosedIn c
  | .markOut => markClosedOut c
  | .open => connOpen c
  | .txFreed => (txFreed c).1

def Call.parts : Call → List Part
  | .req d => [.req (some d) d.length]
  | .res d => [.res (some d) d.length]
  | .close => [.markIn, .markOut, .req none 0, .res none 0]
  | .reqClose => [.markIn, .req none 0]
  | .open => [.open]
  | .txFreed => [.txFreed]

theorem runCall_parts (cfg : Cfg) (c : Conn) (call : Call) : runCall cfg c call = call.parts.foldl (runPart cfg) c := by
  cases call with
  | close => exact connClose_fst cfg c
  | reqClose => exact congrArg Prod.fst (reqClose_eq cfg c)
  | _ => rfl

theorem runCall_inv_of_parts {cfg : Cfg} {G : Part → Prop} {I : Conn → Prop} (step : ∀ c s, G s → I c → I (runPart cfg c s))
    (c : Conn) (call : Call) (hg : ∀ s ∈ call.parts, G s) (h : I c) : I (runCall cfg c call) := by
  rw [runCall_parts]
  generalize call.parts = l at hg
  induction l generalizing c with
  | nil => exact h
  | cons s rest ih => exact ih _ (step c s (hg s List.mem_cons_self) h) (fun x hx => hg x (List.mem_cons_of_mem _ hx))

theorem runCall_rel_of_parts {cfg : Cfg} {Rel : Conn → Conn → Prop} (refl : ∀ c, Rel c c) (trans : ∀ {a b c}, Rel a b → Rel b c → Rel a c)
    (step : ∀ c s, Rel c (runPart cfg c s)) (c : Conn) (call : Call) : Rel c (runCall cfg c call) :=
  runCall_inv_of_parts (G := fun _ => True) (I := Rel c) (fun c' s _ h => trans h (step c' s)) c call (fun _ _ => trivial) (refl c)

/-- htp_connp_tx_freed for a relation: one step, dropping a leading empty slot with the index taken down by one, is all there is to show -/
theorem txFreedLoop_rel {Rel : Conn → Conn → Prop} (refl : ∀ c, Rel c c) (trans : ∀ {a b c}, Rel a b → Rel b c → Rel a c)
    (step : ∀ (c : Conn) rest, c.txs = none :: rest → Rel c { c with txs := rest, outNextTxIndex := c.outNextTxIndex - 1 })
    (fuel : Nat) (c : Conn) (r : Nat) : Rel c (txFreedLoop fuel c r).1 := by
  induction fuel generalizing c r with
  | zero => exact refl c
  | succ k ih =>
    unfold txFreedLoop
    split
    · rename_i rest heq
      exact trans (step c rest heq) (ih _ _)
    · exact refl c

theorem mem_of_snoc_prefix {pre calls : List Call} {call : Call} (h : pre ++ [call] <+: calls) : call ∈ calls := by
  obtain ⟨t, ht⟩ := h
  rw [← ht]; simp

theorem runCalls_inv_at {cfg : Cfg} {G : Conn → Call → Prop} {I : Conn → Prop} (step : ∀ c call, G c call → I c → I (runCall cfg c call))
    (c0 : Conn) (calls : List Call) (hg : ∀ pre call, pre ++ [call] <+: calls → G (runCalls cfg c0 pre) call) (h0 : I c0) :
    I (runCalls cfg c0 calls) := by
  induction calls generalizing c0 with
  | nil => exact h0
  | cons call rest ih =>
    rw [runCalls_cons]
    refine ih _ (fun pre cl hp => ?_) (step c0 call (hg [] call (by simp)) h0)
    have := hg (call :: pre) cl (by simpa [List.cons_prefix_cons] using hp)
    simpa using this

theorem runCalls_inv {cfg : Cfg} {G : Call → Prop} {I : Conn → Prop} (step : ∀ c call, G call → I c → I (runCall cfg c call))
    (c0 : Conn) (calls : List Call) (hg : ∀ call ∈ calls, G call) (h0 : I c0) : I (runCalls cfg c0 calls) :=
  runCalls_inv_at (G := fun _ => G) step c0 calls (fun _ call hp => hg call (mem_of_snoc_prefix hp)) h0

theorem runCalls_rel {cfg : Cfg} {Rel : Conn → Conn → Prop} (refl : ∀ c, Rel c c) (trans : ∀ {a b c}, Rel a b → Rel b c → Rel a c)
    (step : ∀ c call, Rel c (runCall cfg c call)) (c0 : Conn) (calls : List Call) : Rel c0 (runCalls cfg c0 calls) :=
  runCalls_inv (G := fun _ => True) (I := Rel c0) (fun c call _ h => trans h (step c call)) c0 calls (fun _ _ => trivial) (refl c0)

theorem runCalls_snoc (cfg : Cfg) (c0 : Conn) (pre : List Call) (call : Call) :
    runCalls cfg c0 (pre ++ [call]) = runCall cfg (runCalls cfg c0 pre) call := by
  rw [runCalls_append]; rfl

/-- the request data call gets past its four early returns (status STOP, status ERROR, no transaction outside REQ_IDLE, zero length on a
    stream that is not CLOSED) and reaches htp_conn_track_inbound_data -/
def reqCounted (c : Conn) (len : Nat) : Bool :=
  !(c.inn.status == STREAM_STOP) && !(c.inn.status == STREAM_ERROR) && !(c.inn.tx.isNone && c.inState != .idle) &&
  !(len == 0 && c.inn.status != STREAM_CLOSED)

/-- the counterpart for htp_connp_res_data / htp_conn_track_outbound_data -/
def resCounted (c : Conn) (len : Nat) : Bool :=
  !(c.out.status == STREAM_STOP) && !(c.out.status == STREAM_ERROR) && !(c.out.tx.isNone && c.outState != .idle) &&
  !(len == 0 && c.out.status != STREAM_CLOSED)

/-- a data call that was not answered by an early return: the codes the early returns cannot produce are those of the parser loop and
    of the tunnel return -/
def Accepted (rc : Nat) : Prop := rc = STREAM_DATA ∨ rc = STREAM_DATA_OTHER ∨ rc = STREAM_TUNNEL

instance (rc : Nat) : Decidable (Accepted rc) := by unfold Accepted; infer_instance

theorem not_accepted_stop : ¬ Accepted STREAM_STOP := by decide
theorem not_accepted_error : ¬ Accepted STREAM_ERROR := by decide
theorem not_accepted_closed : ¬ Accepted STREAM_CLOSED := by decide

end Htp.Conn
