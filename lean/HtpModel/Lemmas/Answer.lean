/- What the answer of a request state function says (`Says P r`, Lemmas/Consumed.lean). HTP_OK: a fact `P` about the state it leaves, the
   one that makes the pass count as progress (C08, Lemmas/DriverFuel.lean) - the parser moved on, a byte was read, or a pending line was
   dropped. HTP_DATA / HTP_DATA_BUFFER: the chunk is used up (C09). Each state function is walked once for the pair (`says_req*`): every
   return point has exactly one answer, so at each one half is trivial. `Took` (Lemmas/Consumed.lean) is the exact form of the same for
   the counted body states.
   `P` holds no cursor part. That no state function takes the read offset back or leaves the chunk is read off the general walk at one
   `DirInv` (`dirInv_mv`, `mv_of_walk`). -/
import HtpModel.Lemmas.CursorInv
import HtpModel.Lemmas.Consumed
namespace Htp.Conn
open Htp Htp.Gen

/-- a line is pending: bytes set aside by an earlier call, or bytes of this chunk read but not consumed -/
def pend (d : Dir) : Bool := d.buf.isSome || decide (d.consume < d.read)

theorem pend_clearBuffer (d : Dir) : pend d.clearBuffer = false := by
  unfold pend Dir.clearBuffer
  simp

theorem pend_peekSet (d : Dir) : pend (d.peekSet).1 = pend d := rfl

/-- `pend` against the bytes themselves (`Dir.pending`, Lemmas/Segment.lean): what consolidation hands on is not empty only where a line
    was pending -/
theorem consolidate_data_pend (d d2 : Dir) (hard : Nat) (s : Bool) (data : Bytes) (h : d.consolidate hard s = some (d2, data))
    (hne : data.length ≠ 0) : pend d = true := by
  unfold pend
  rcases Dir.consolidate_eq h with ⟨hb, _, rfl⟩ | ⟨hb, _, _⟩
  · rw [hb]
    simp only [Option.isSome_none, Bool.false_or, decide_eq_true_eq]
    false_or_by_contra
    apply hne
    unfold sliceCur
    rw [show (d.read - d.consume).toNat = 0 by omega]
    simp
  · rw [hb]; rfl

/-- the cursor part of what every state function does, whatever it answers (`mv_of_walk`) -/
structure Mv (d d' : Dir) : Prop where
  len : d'.len = d.len
  read : d.read ≤ d'.read

theorem Mv.refl (d : Dir) : Mv d d := ⟨rfl, Int.le_refl _⟩
theorem Mv.trans {a b c : Dir} (h1 : Mv a b) (h2 : Mv b c) : Mv a c := ⟨h2.len.trans h1.len, Int.le_trans h1.read h2.read⟩

theorem Dir.Step.mv {hard : Nat} {d d' : Dir} (h : Dir.Step hard True d d') (w : d.read ≤ d.len) : Mv d d' := by
  refine ⟨(congrArg Dir.len h.frame :), ?_⟩
  cases h with
  | copy h => rw [(copyByte_mv _ _ _ h).2]; exact Int.le_add_of_nonneg_right (by decide)
  | take h => rw [(nextByteConsume_mv _ _ _ h).2]; exact Int.le_add_of_nonneg_right (by decide)
  | setAside h => rw [(Dir.buffer_read_len h).1]; exact Int.le_refl _
  | clear => exact Int.le_refl _
  | advance n h => exact Int.le_add_of_nonneg_right (h trivial w).1
  | readAll n => exact w

/-- with this the walk (`reqRelS_inv`) gives `Mv` of every state function -/
theorem dirInv_mv (hard : Nat) (d0 : Dir) : DirInv hard True (fun d => WFCur d ∧ Mv d0 d) where
  same w h hb := ⟨(dirInv_wfCur hard).same w.1 h hb, h.2.1.trans w.2.len, h.1 ▸ w.2.read⟩
  step h w := ⟨(dirInv_wfCur hard).step h w.1, w.2.trans (h.mv w.1.rl)⟩

/-- the walk read at `dirInv_mv`, for a whole state function or for the rest of a pass inside a proof:
    `mv_of_walk (fun K => walk_reqLineLoop cfg K k c) w` -/
theorem mv_of_walk {cfg : Cfg} {c c' : Conn}
    (h : ∀ {Rel : Conn → Conn → Prop}, ReqRel cfg True (fun _ => True) Rel → Rel c c') (w : WFCur c.inn) :
    WFCur c'.inn ∧ Mv c.inn c'.inn :=
  h (reqRelS_inv (dirInv_mv _ c.inn)).toReqRel ⟨w, .refl _⟩

/-- REQ_IDLE: its answer is that of htp_tx_state_request_start, which it calls only with a byte there -/
theorem says_reqIdle (cfg : Cfg) (c : Conn) : Says (fun c' => c.inn.read < c.inn.len ∧ c'.inState = .line) (reqIdle cfg c) := by
  unfold reqIdle
  refine says_ite (fun h => says_data (by decide) h) fun hlt => ?_
  split
  rename_i c1 u _
  cases u with
  | none => exact says_rc (by decide) .error
  | some uid =>
    exact (says_txStateRequestStart uid c1).of_tx fun _ h => ⟨by omega, h⟩

/-- REQ_LINE_complete. HTP_OK: a line was pending, none is now. HTP_DATA: only for an empty line, and there is none unless the chunk is
    used up (`H`: it is, or a byte has just been copied) -/
theorem says_reqLineComplete (cfg : Cfg) (c : Conn) (H : c.inn.len ≤ c.inn.read ∨ (WFCur c.inn ∧ c.inn.consume < c.inn.read)) :
    Says (fun c' => pend c.inn = true ∧ pend c'.inn = false) (reqLineComplete cfg c) := by
  unfold reqLineComplete
  cases hc : c.inn.consolidate cfg.fieldLimitHard true with
  | none => exact says_rc (by decide) .error
  | some p =>
    obtain ⟨d, data⟩ := p
    simp only
    refine says_ite (fun hz => says_data (by decide) ?_) fun hne => ?_
    · have hrl := Dir.consolidate_read_len hc
      show d.len ≤ d.read
      rcases H with H | ⟨w, hlt⟩
      · rw [hrl.1, hrl.2]; exact H
      · exact absurd (List.eq_nil_of_length_eq_zero (by simpa using hz)) (consolidate_nonempty _ _ _ _ w hlt hc)
    · have hp : pend c.inn = true := consolidate_data_pend _ _ _ _ _ hc (by simpa using hne)
      refine says_ite (fun _ => says_ok ⟨hp, pend_clearBuffer _⟩) fun _ => ?_
      split
      · exact says_rc (by decide) .error
      · generalize txStateRequestLine cfg _ _ = r
        exact says_ite (fun _ => says_rc (by decide) .error) fun _ => says_ok ⟨hp, pend_clearBuffer _⟩

/-- REQ_LINE answering HTP_OK: no line is pending now, and where no byte was read one was pending and the chunk was used up. Where the
    parser is afterwards does not matter for C08: (REQ_LINE, nothing available, a line pending) has the highest rank of all, and with no
    line pending every rank is below it. -/
theorem says_reqLineLoop (cfg : Cfg) (fuel : Nat) (c : Conn) (w : WFCur c.inn) :
    Says (fun c' => pend c'.inn = false ∧ (c'.inn.read = c.inn.read → pend c.inn = true ∧ c.inn.len ≤ c.inn.read))
      (reqLineLoop cfg fuel c) := by
  induction fuel generalizing c with
  | zero => exact says_rc (by decide) .error
  | succ k ih =>
    rw [reqLineLoop_succ]
    refine says_ite (fun hcl => ?_) fun _ => ?_
    · have hle : c.inn.len ≤ c.inn.read := peek_none_wf c.inn w (by
        simp only [Bool.and_eq_true, Option.isNone_iff_eq_none] at hcl
        exact hcl.2)
      have h := says_reqLineComplete cfg { c with inn := (c.inn.peekSet).1 } (.inl hle)
      exact ⟨okP_mono h.1 fun c' h => ⟨h.2, fun _ => ⟨h.1, hle⟩⟩, h.2⟩
    · cases hcb : (c.inn.peekSet).1.copyByte with
      | none => exact says_data (by decide) (Dir.copyByte_none_iff.1 hcb)
      | some p =>
        obtain ⟨d, b⟩ := p
        obtain ⟨wd, hlt, _⟩ := copyByte_some_wf _ d b (wf_peekSet _ w) hcb
        have hr : d.read = c.inn.read + 1 := (copyByte_mv _ _ _ hcb).2
        simp only
        -- the rest of the pass does not take the read offset back behind the byte just copied
        refine says_ite (fun _ => ?_) fun _ => ?_
        · have m : d.read ≤ _ := (mv_of_walk (fun K => walk_reqLineComplete cfg K { c with inn := d }) wd).2.read
          have h := says_reqLineComplete cfg { c with inn := d } (.inr ⟨wd, hlt⟩)
          exact ⟨fun hok => ⟨(h.1 hok).2, fun e => by omega⟩, h.2⟩
        · have m : d.read ≤ _ := (mv_of_walk (fun K => walk_reqLineLoop cfg K k { c with inn := d }) wd).2.read
          exact ⟨fun hok => ⟨((ih _ wd).1 hok).1, fun e => by omega⟩, (ih _ wd).2⟩

theorem says_reqProtocol (c : Conn) : Says (fun c' => c'.inState = .headers ∨ c'.inState = .finalize) (reqProtocol c) := by
  unfold reqProtocol
  simp only []
  have k : ∀ f : Tx → Tx, (({ c with inState := .headers } : Conn).modIn f).inState = .headers := fun f => modIn_inState _ f
  have k2 : ∀ f g : Tx → Tx, ((({ c with inState := .headers } : Conn).modIn f).modIn g).inState = .headers :=
    fun f g => (modIn_inState _ g).trans (k f)
  exact says_ite (fun _ => says_ok (.inl (k _))) fun _ => says_ite (fun _ => says_ok (.inl (k2 _ _))) fun _ =>
    says_ite (fun _ => says_ok (.inl (k2 _ _))) fun _ => says_ok (.inr rfl)

/-- REQ_HEADERS: its HTP_OK is that of htp_tx_state_request_headers -/
theorem says_reqHeadersLoop (cfg : Cfg) (fuel : Nat) (c : Conn) :
    Says (fun c' => c'.inState = .finalize ∨ c'.inState = .connectCheck) (reqHeadersLoop cfg fuel c) := by
  induction fuel generalizing c with
  | zero => exact says_rc (by decide) .error
  | succ k ih =>
    rw [reqHeadersLoop_succ]
    split
    · exact says_rc (by decide) .error
    · rename_i uid _
      have fin : ∀ (c0 : Conn) (g : Conn → Conn), Says (fun c' => c'.inState = .finalize ∨ c'.inState = .connectCheck)
          (reqFlushHeader c0 >>? fun c => txStateRequestHeaders cfg uid (g c)) := fun c0 g =>
        says_andThen _ _ (noData_reqFlushHeader _) fun c1 => (says_txStateRequestHeaders _ _ _).of_tx fun _ h => h
      refine says_ite (fun _ => fin _ _) fun _ => ?_
      cases hn : c.inn.copyByte with
      | none => exact says_data (by decide) (Dir.copyByte_none_iff.1 hn)
      | some p =>
        refine says_ite (fun _ => ih _) fun _ => ?_
        split
        · exact says_rc (by decide) .error
        · exact says_ite (fun _ => fin _ _) fun _ => says_andThen _ _ (noData_reqHeaderLine ..) fun _ => ih _

theorem says_reqConnectCheck (c : Conn) : Says (fun c' => c'.inState = .bodyDetermine) (reqConnectCheck c) :=
  says_ite (fun _ => says_rc (by decide) .dataOther) fun _ => says_ok rfl

theorem says_reqConnectWaitResponse (c : Conn) :
    Says (fun c' => c'.inState = .connectProbeData ∨ c'.inState = .finalize) (reqConnectWaitResponse c) := by
  unfold reqConnectWaitResponse
  exact says_ite (fun _ => says_rc (by decide) .dataOther) fun _ => says_ite (fun _ => says_ok (.inl rfl)) fun _ => says_ok (.inr rfl)

/-- REQ_CONNECT_PROBE_DATA answering HTP_OK: the stream is a tunnel now (the call returns), or the request was completed -/
theorem says_reqConnectProbeLoop (cfg : Cfg) (fuel : Nat) (c : Conn) :
    Says (fun c' => c'.inn.status = STREAM_TUNNEL ∨ c'.inState = .idle ∨ c'.inState = .ignoreDataAfter09)
      (reqConnectProbeLoop cfg fuel c) := by
  induction fuel generalizing c with
  | zero => exact says_rc (by decide) .error
  | succ k ih =>
    rw [reqConnectProbeLoop]
    refine says_ite (fun _ => ?_) fun _ => ?_
    · split
      · exact says_rc (by decide) .error
      · refine says_ite (fun _ => ?_) fun _ => says_ok (.inl rfl)
        split
        · exact (says_txStateRequestComplete ..).of_tx fun _ h => .inr h
        · exact says_rc (by decide) .error
    · split
      · rename_i hn
        exact says_data (by decide) (Dir.copyByte_none_iff.1 hn)
      · exact ih _

theorem says_reqBodyDetermine (c : Conn) :
    Says (fun c' => c'.inState = .bodyChunkedLength ∨ c'.inState = .bodyIdentity ∨ c'.inState = .finalize) (reqBodyDetermine c) := by
  unfold reqBodyDetermine
  refine says_ite (fun _ => says_ok (.inl (modIn_inState _ _))) fun _ => says_ite (fun _ => ?_)
    fun _ => says_ite (fun _ => says_ok (.inr (.inr rfl))) fun _ => says_rc (by decide) .error
  exact says_ite (fun _ => says_ok (.inr (.inl (modIn_inState _ _)))) fun _ => says_ok (.inr (.inr rfl))

/-- the two counted body states, read off `Took`. (The read offset inside the chunk stands under `P`: C09's statements, which take the
    HTP_DATA half, assume it in REQ_LINE only.) -/
theorem says_reqBodyIdentity (cfg : Cfg) (c : Conn) (ho : 0 < c.inn.bodyDataLeft) :
    Says (fun c' => c.inn.read ≤ c.inn.len → Adv c.inn c'.inn ∧ c'.inState = .finalize) (reqBodyIdentity cfg c) :=
  ⟨fun hok hrl => have h := (took_reqBodyIdentity cfg c).ok hok; ⟨⟨h.2.1, h.2.2 hrl ho⟩, h.1⟩, (took_reqBodyIdentity cfg c).consumed ho⟩

theorem says_reqBodyChunkedData (cfg : Cfg) (c : Conn) (ho : 0 < c.inn.chunkedLength) :
    Says (fun c' => c.inn.read ≤ c.inn.len → Adv c.inn c'.inn ∧ c'.inState = .bodyChunkedDataEnd) (reqBodyChunkedData cfg c) :=
  ⟨fun hok hrl => have h := (took_reqBodyChunkedData cfg c).ok hok; ⟨⟨h.2.1, h.2.2 hrl ho⟩, h.1⟩, (took_reqBodyChunkedData cfg c).consumed ho⟩

theorem says_reqChunkedDataEndLoop (fuel : Nat) (c : Conn) :
    Says (fun c' => Adv c.inn c'.inn ∧ c'.inState = .bodyChunkedLength) (reqChunkedDataEndLoop fuel c) := by
  induction fuel generalizing c with
  | zero => exact says_rc (by decide) .error
  | succ k ih =>
    unfold reqChunkedDataEndLoop
    cases hn : c.inn.nextByteConsume with
    | none => exact says_data (by decide) (Dir.nextByteConsume_none hn)
    | some p =>
      obtain ⟨d, b⟩ := p
      obtain ⟨hl, hr⟩ := nextByteConsume_mv _ _ _ hn
      refine says_ite (fun _ => says_ok ⟨by simp only [modIn_inn]; exact ⟨hl, by omega⟩, rfl⟩) fun _ => ?_
      refine ⟨okP_mono (ih _).1 fun c' ⟨⟨e1, e2⟩, e3⟩ => ?_, (ih _).2⟩
      simp only [modIn_inn] at e1 e2
      exact ⟨⟨by rw [e1, hl], by omega⟩, e3⟩

theorem says_reqChunkedLengthLoop (cfg : Cfg) (fuel : Nat) (c : Conn) :
    Says (fun c' => Adv c.inn c'.inn ∧ (c'.inState = .bodyChunkedData ∨ c'.inState = .headers)) (reqChunkedLengthLoop cfg fuel c) := by
  induction fuel generalizing c with
  | zero => exact says_rc (by decide) .error
  | succ k ih =>
    unfold reqChunkedLengthLoop
    cases hn : c.inn.copyByte with
    | none => exact says_data (by decide) (Dir.copyByte_none_iff.1 hn)
    | some p =>
      obtain ⟨d, b⟩ := p
      obtain ⟨hl, hr⟩ := copyByte_mv _ _ _ hn
      simp -zeta only
      extract_lets c0
      refine says_ite (fun _ => ⟨okP_mono (ih c0).1 fun c' ⟨⟨e1, e2⟩, e3⟩ => ?_, (ih c0).2⟩) fun _ => ?_
      · have e1' : c'.inn.len = d.len := e1
        have e2' : d.read < c'.inn.read := e2
        exact ⟨⟨by rw [e1', hl], by omega⟩, e3⟩
      · cases hc : c0.inn.consolidate cfg.fieldLimitHard true with
        | none => exact says_rc (by decide) .error
        | some q =>
          obtain ⟨d2, data⟩ := q
          have r2 : d2.read = d.read ∧ d2.len = d.len := Dir.consolidate_read_len hc
          simp -zeta only
          extract_lets c1 line n c2
          have e2 : Adv c.inn c2.inn := by
            have hc1 : c1.inn = d2 := by simp only [c1, modIn_inn]
            exact ⟨show c1.inn.len = c.inn.len by rw [hc1, r2.2, hl], show c.inn.read < c1.inn.read by rw [hc1, r2.1, hr]; omega⟩
          clear_value c2
          refine says_ite (fun _ => says_ok ⟨e2, .inl rfl⟩) fun _ => says_ite (fun _ => says_ok ⟨?_, .inr (modIn_inState _ _)⟩)
            fun _ => says_rc (by decide) .error
          rw [modIn_inn]
          exact e2

theorem reqFinalizeScan_pend (fuel : Nat) (d d' : Dir) (h : reqFinalizeScan fuel d = some d') :
    d.read ≤ d'.read ∧ (d'.read = d.read → pend d' = pend d) := by
  induction fuel generalizing d with
  | zero => unfold reqFinalizeScan at h; cases h; exact ⟨Int.le_refl _, fun _ => rfl⟩
  | succ k ih =>
    unfold reqFinalizeScan at h
    simp only at h
    split at h
    · cases h; exact ⟨Int.le_refl _, fun _ => rfl⟩
    · cases hn : (d.peekSet).1.copyByte with
      | none => rw [hn] at h; cases h
      | some p =>
        obtain ⟨d1, b1⟩ := p
        rw [hn] at h
        have hr : d1.read = d.read + 1 := (copyByte_mv _ _ _ hn).2
        have m := (ih _ h).1
        exact ⟨by omega, fun e => by omega⟩

/-- the LF that was peeked at cannot be copied: no byte is left -/
theorem reqFinalizeLine_none {cfg : Cfg} {c : Conn} {data : Bytes} (h : reqFinalizeLine cfg c data = none) : c.inn.len ≤ c.inn.read := by
  unfold reqFinalizeLine at h
  split at h
  · cases hcb : c.inn.copyByte with
    | none => exact Dir.copyByte_none_iff.1 hcb
    | some p =>
      rw [hcb] at h
      simp only at h
      split at h <;> cases h
  · cases h

/-- REQ_FINALIZE answering HTP_OK: the request was completed (REQ_IDLE / REQ_IGNORE_DATA_AFTER_HTTP_0_9), or a line of unexpected body
    data was handed on and the parser stays - then no line is pending any more, and if no byte was read one was pending -/
theorem says_reqFinalize (cfg : Cfg) (c : Conn) :
    Says (fun c' => c'.inState = .idle ∨ c'.inState = .ignoreDataAfter09 ∨
      (c'.inState = c.inState ∧ pend c'.inn = false ∧ (c'.inn.read = c.inn.read → pend c.inn = true))) (reqFinalize cfg c) := by
  have done : ∀ uid c1, Says (fun c' => c'.inState = .idle ∨ c'.inState = .ignoreDataAfter09 ∨
      (c'.inState = c.inState ∧ pend c'.inn = false ∧ (c'.inn.read = c.inn.read → pend c.inn = true))) (txStateRequestComplete cfg uid c1) :=
    fun uid c1 => (says_txStateRequestComplete cfg uid c1).of_tx fun _ h => h.elim .inl (.inr ∘ .inl)
  rw [reqFinalize_eq]
  split
  · exact says_rc (by decide) .error
  · split
    · exact says_data (by decide) (Int.le_refl _)
    · exact done _ _
    · rename_i c1 hpre
      have h1 : c1.inState = c.inState ∧ c.inn.read ≤ c1.inn.read ∧ (c1.inn.read = c.inn.read → pend c1.inn = pend c.inn) := by
        obtain ⟨d, rfl, hd⟩ := reqFinalizePre_some hpre
        rcases hd with rfl | rfl | hs
        · exact ⟨rfl, Int.le_refl _, fun _ => rfl⟩
        · exact ⟨rfl, Int.le_refl _, fun _ => rfl⟩
        · exact ⟨rfl, reqFinalizeScan_pend _ (c.inn.peekSet).1 _ hs⟩
      split
      · exact says_rc (by decide) .error
      · rename_i d2 data hc
        refine says_ite (fun _ => done _ _) fun hne => ?_
        -- a line of data: one was pending after the look-ahead
        have hp : pend c1.inn = true := consolidate_data_pend _ _ _ _ _ hc (by simpa using hne)
        have r2 : d2.read = c1.inn.read := (Dir.consolidate_read_len hc).1
        split
        · exact done _ _
        · rename_i c3 hgo
          split
          · rename_i hr
            exact says_data (by decide) (reqFinalizeLine_none hr)
          · rename_i c6 data6 hr
            -- from there on the parser is not moved and the read offset not taken back
            have h6 : c6.inState = c.inState ∧ d2.read ≤ c6.inn.read := by
              have h3 : c3.inState = c.inState ∧ c3.inn.read = d2.read := by
                rcases reqFinalizeGo_some hgo with rfl | rfl <;> exact ⟨h1.1, rfl⟩
              rcases reqFinalizeLine_some hr with rfl | ⟨d4, b4, hcb, rfl | ⟨d5, hc4, rfl⟩⟩
              · exact ⟨h3.1, Int.le_of_eq h3.2.symm⟩
              · have h4 : d4.read = c3.inn.read + 1 := (copyByte_mv _ _ _ hcb).2
                exact ⟨h3.1, by show d2.read ≤ d4.read; omega⟩
              · have h4 : d4.read = c3.inn.read + 1 := (copyByte_mv _ _ _ hcb).2
                have h5 : d5.read = d4.read := (Dir.consolidate_read_len hc4).1
                exact ⟨h3.1, by show d2.read ≤ d5.read; omega⟩
            have k := reqTx_reqProcessBodyData cfg (some data6) 0 c6
            refine says_tx (fun _ => .inr (.inr ⟨k.inState.trans h6.1, pend_clearBuffer _, fun e => ?_⟩))
              (noData_reqProcessBodyData ..)
            have e6 : (reqProcessBodyData cfg (some data6) 0 c6).1.inn.read = c6.inn.read := k.keepIn.1
            have e' : (reqProcessBodyData cfg (some data6) 0 c6).1.inn.read = c.inn.read := e
            rw [← h1.2.2 (by omega)]
            exact hp

theorem says_reqIgnore (c : Conn) : Says (fun _ => False) (reqIgnoreDataAfter09 c) := by
  unfold reqIgnoreDataAfter09
  simp only []
  refine says_data (by decide) ?_
  split <;> (show c.inn.len ≤ c.inn.read + (c.inn.len - c.inn.read); omega)

/-- C09's step: the second halves -/
theorem consumed_reqStateFn (cfg : Cfg) (c : Conn)
    (hw : c.inState = ReqState.line → WFCur c.inn)
    (ho1 : c.inState = ReqState.bodyIdentity → 0 < c.inn.bodyDataLeft)
    (ho2 : c.inState = ReqState.bodyChunkedData → 0 < c.inn.chunkedLength) : Consumed (reqStateFn cfg c) := by
  unfold reqStateFn
  cases hs : c.inState with
  | idle => exact (says_reqIdle cfg c).2
  | line => exact (says_reqLineLoop cfg _ c (hw hs)).2
  | protocol => exact (says_reqProtocol c).2
  | headers => exact (says_reqHeadersLoop cfg _ c).2
  | connectCheck => exact (says_reqConnectCheck c).2
  | connectWaitResponse => exact (says_reqConnectWaitResponse c).2
  | connectProbeData => exact (says_reqConnectProbeLoop cfg _ c).2
  | bodyDetermine => exact (says_reqBodyDetermine c).2
  | bodyIdentity => exact (says_reqBodyIdentity cfg c (ho1 hs)).2
  | bodyChunkedLength => exact (says_reqChunkedLengthLoop cfg _ c).2
  | bodyChunkedData => exact (says_reqBodyChunkedData cfg c (ho2 hs)).2
  | bodyChunkedDataEnd => exact (says_reqChunkedDataEndLoop _ c).2
  | finalize => exact (says_reqFinalize cfg c).2
  | ignoreDataAfter09 => exact (says_reqIgnore c).2

end Htp.Conn
