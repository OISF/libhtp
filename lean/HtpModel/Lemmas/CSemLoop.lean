/- Reasoning about a program of `HtpModel/CSem.lean` without unfolding `whileF`.

   * `go r kn kb kc` continues an outcome: `kn` / `kb` / `kc` after a normal end / `break` / `continue`; a return and undefinedness stay as
     they are. The `go_*` equations push `go` through every statement combinator, so that inside a turn `simp` leaves nested
     `if` / `Option.bind` with the continuations at the leaves (`seqS a b s` is `go (a s) b brkS contS`).
   * `turn c body incr again exit` is ONE turn of a loop: `again` stands for the remaining turns, `exit` for what follows the loop.
     `whileF_turn`: a loop with one more unit of fuel, followed by the rest of its block, is a turn.
   * `loop_post` / `loop_eq`, the loop rule: the states the loop passes through are `mk i` (`i`: a position, a position and
     an accumulator ..) for the `i` of an invariant `Inv`, a measure `μ` falls with every turn, and one turn from `mk i` does what is
     claimed provided the remaining turns do. Then the loop does, for any fuel above the measure.

   A proof about a translated loop therefore goes: name `mk`, `Inv`, `μ` and what the loop computes from `mk i`; `refine loop_eq ..`
   (the assignments before the loop disappear by unfolding); `intro i hi again ih`; case analysis on the data at position `i`; in each
   case `simp [turn, <cond>, <body>, <incr>, <rest>, reads, ih ..]` (under plain `simp` take `have hih := ih (i + 1) ..` and end with
   `simpa using hih`: `simp` turns `↑(p + 1)` into `↑p + 1`, and the instance in the list no longer matches). No induction and no fuel in
   the proof itself.
   A trap: the generated pieces `<fn>_cond<k> F`, `<fn>_body<k> F` .. take the function's fuel `F` (for the calls of other translated
   functions), and `<fn>_loop<k> F` uses the same `F` as the fuel of its loop. State a loop lemma with the two apart - `seqS (whileF
   (f_cond1 F) (f_body1 F) (f_incr1 F) n) (f_rest1 F) (mk i)` for all `n`, as the files of Lemmas/CFuns*.lean do with `(F : Nat)`.
   With `F = n` under the binder, `refine loop_eq ..` still succeeds, by unfolding the pieces until `n` is gone, the `seqS` of the body
   included, after which `go_seqS` no longer fires; the one symptom is the linter calling `<fn>_cond1` an unused simp argument. -/
import HtpModel.CSem
namespace Htp.CSem
variable {σ : Type}

def go (r : Option (Ctl σ)) (kn kb kc : Stmt σ) : Option (Ctl σ) :=
  match r with
  | some (.next s) => kn s
  | some (.brk s) => kb s
  | some (.cont s) => kc s
  | r => r

section Go
variable (kn kb kc : Stmt σ) (s : σ)
@[simp] theorem go_next : go (some (.next s)) kn kb kc = kn s := rfl
@[simp] theorem go_brk : go (some (.brk s)) kn kb kc = kb s := rfl
@[simp] theorem go_cont : go (some (.cont s)) kn kb kc = kc s := rfl
@[simp] theorem go_ret (v : Int) : go (some (.ret s v)) kn kb kc = some (.ret s v) := rfl
@[simp] theorem go_none : go (none : Option (Ctl σ)) kn kb kc = none := rfl
@[simp] theorem go_ite (c : Prop) [Decidable c] (x y : Option (Ctl σ)) :
    go (if c then x else y) kn kb kc = if c then go x kn kb kc else go y kn kb kc := apply_ite (go · kn kb kc) c x y
@[simp] theorem go_bind {α : Type} (x : Option α) (f : α → Option (Ctl σ)) :
    go (x.bind f) kn kb kc = x.bind fun a => go (f a) kn kb kc := by cases x <;> rfl
@[simp] theorem go_skipS : go (skipS s) kn kb kc = kn s := rfl
@[simp] theorem go_brkS : go (brkS s) kn kb kc = kb s := rfl
@[simp] theorem go_contS : go (contS s) kn kb kc = kc s := rfl
@[simp] theorem go_assignS (f : σ → Option σ) : go (assignS f s) kn kb kc = (f s).bind kn := by
  unfold assignS; cases f s <;> rfl
/-- `x = c ? a : b` as the translator prints an allocation that may fail, the conditional INSIDE the new state: the store is a branch -/
@[simp] theorem go_assignS_ite (c : σ → Prop) [∀ s, Decidable (c s)] (f g : σ → σ) :
    go (assignS (fun s => some (if c s then f s else g s)) s) kn kb kc = if c s then kn (f s) else kn (g s) := by
  unfold assignS; split <;> simp [*]
@[simp] theorem go_retS (e : σ → Option Int) : go (retS e s) kn kb kc = retS e s := by
  unfold retS; cases e s <;> rfl
@[simp] theorem go_iteS (c : σ → Option Bool) (a b : Stmt σ) :
    go (iteS c a b s) kn kb kc = (c s).bind fun v => if v then go (a s) kn kb kc else go (b s) kn kb kc := by
  unfold iteS; cases c s with
  | none => rfl
  | some v => cases v <;> rfl
@[simp] theorem go_seqS (a b : Stmt σ) : go (seqS a b s) kn kb kc = go (a s) (fun s' => go (b s') kn kb kc) kb kc := by
  unfold seqS; cases a s with
  | none => rfl
  | some r => cases r <;> rfl
end Go

theorem seqS_go (a b : Stmt σ) (s : σ) : seqS a b s = go (a s) b brkS contS := by
  unfold seqS; cases a s with
  | none => rfl
  | some r => cases r <;> rfl

def turn (c : σ → Option Bool) (body incr again exit : Stmt σ) : Stmt σ := fun s =>
  (c s).bind fun v =>
    if v then go (body s) (fun s' => go (incr s') again brkS contS) exit (fun s' => go (incr s') again brkS contS) else exit s

theorem whileF_turn (c : σ → Option Bool) (body incr rest : Stmt σ) (n : Nat) (s : σ) :
    seqS (whileF c body incr (n + 1)) rest s = turn c body incr (seqS (whileF c body incr n) rest) rest s := by
  rw [seqS_go, whileF_succ]
  unfold turn
  cases c s with
  | none => rfl
  | some v =>
    cases v with
    | false => rfl
    | true =>
      simp only [Option.bind_some, if_true]
      cases body s with
      | none => rfl
      | some r =>
        cases r with
        | next s' | cont s' =>
          simp only [go_next, go_cont]
          cases incr s' with
          | none => rfl
          | some r' => cases r' <;> simp [seqS_go]
        | brk s' => rfl
        | ret s' v => rfl

theorem loop_post {ι : Type} {c : σ → Option Bool} {body incr rest : Stmt σ}
    (mk : ι → σ) (Inv : ι → Prop) (μ : ι → Nat) (Q : ι → Option (Ctl σ) → Prop)
    (h : ∀ i, Inv i → ∀ again : Stmt σ, (∀ j, Inv j → μ j < μ i → Q j (again (mk j))) → Q i (turn c body incr again rest (mk i))) :
    ∀ n i, Inv i → μ i < n → Q i (seqS (whileF c body incr n) rest (mk i)) := by
  intro n
  induction n with
  | zero => intro i _ hn; omega
  | succ n ih =>
    intro i hi hn
    rw [whileF_turn]
    exact h i hi _ fun j hj hlt => ih j hj (by omega)

/-- `obs`: the outcome as it is, the value returned, value and out-parameters .. -/
theorem loop_eq {ι β : Type} (obs : Option (Ctl σ) → β) {c : σ → Option Bool} {body incr rest : Stmt σ}
    (mk : ι → σ) (Inv : ι → Prop) (μ : ι → Nat) (G : ι → β)
    (h : ∀ i, Inv i → ∀ again : Stmt σ, (∀ j, Inv j → μ j < μ i → obs (again (mk j)) = G j) →
      obs (turn c body incr again rest (mk i)) = G i) :
    ∀ n i, Inv i → μ i < n → obs (seqS (whileF c body incr n) rest (mk i)) = G i :=
  loop_post mk Inv μ (fun i r => obs r = G i) h

@[simp] theorem retVal_none : retVal (none : Option (Ctl σ)) = none := rfl
@[simp] theorem retVal_ret (s : σ) (v : Int) : retVal (some (.ret s v)) = some v := rfl
@[simp] theorem retVal_ite (c : Prop) [Decidable c] (a b : Option (Ctl σ)) :
    retVal (if c then a else b) = if c then retVal a else retVal b := apply_ite retVal c a b
@[simp] theorem retVal_retS (e : σ → Option Int) (s : σ) : retVal (retS e s) = e s := by
  unfold retS; cases e s <;> rfl

end Htp.CSem
