/- The reference rule for urlencoded data (split on '&', first '=', drop only a final empty piece, decode) and the proof that
   the byte-at-a-time machine of Lemmas/Urlenc.lean computes it. Needs: the bytes the generic decoder produces do not depend on
   the flags/status it is started with (the parser threads them from field to field). -/
import HtpModel.Lemmas.Urlenc
import HtpModel.Lemmas.ListFacts
import HtpModel.Lemmas.Decode
namespace Htp.Urlenc
open Htp Htp.Gen Htp.Decode

/-- what the configured decoder makes of one name or value -/
def decOut (cfg : DecoderCfg) (b : Bytes) : Bytes := (urldecodeEx cfg b 0 0).1

/-- the reference rule, step 1: split on '&' (a string without '&' is one piece; the empty string is one empty piece) -/
def splitAmp : Bytes → List Bytes
  | [] => [[]]
  | c :: rest =>
    if c == AMP then [] :: splitAmp rest
    else match splitAmp rest with
      | p :: ps => (c :: p) :: ps
      | [] => [[c]]

/-- step 2: drop only a final empty piece -/
def dropFinalEmpty : List Bytes → List Bytes
  | [] => []
  | [p] => if p.isEmpty then [] else [p]
  | p :: q :: rest => p :: dropFinalEmpty (q :: rest)

/-- step 3: split a piece at its first '=' (no '=': the value is empty) -/
def splitFirstEq (p : Bytes) : Bytes × Bytes := (p.takeWhile (· != EQS), (p.dropWhile (· != EQS)).drop 1)

def refRaw (s : Bytes) : List (Bytes × Bytes) := (dropFinalEmpty (splitAmp s)).map splitFirstEq

def pairOf (cfg : DecoderCfg) (p : Bytes) : Bytes × Bytes := (decOut cfg (splitFirstEq p).1, decOut cfg (splitFirstEq p).2)

/-- the reference rule: split, then decode name and value per configuration -/
def refPairs (cfg : DecoderCfg) (s : Bytes) : List (Bytes × Bytes) := (refRaw s).map (fun p => (decOut cfg p.1, decOut cfg p.2))

theorem splitAmp_ne_nil (s : Bytes) : splitAmp s ≠ [] := by
  cases s with
  | nil => simp [splitAmp]
  | cons c rest =>
    unfold splitAmp
    split
    · simp
    · split <;> simp

theorem splitAmp_noamp (p : Bytes) (h : ∀ b ∈ p, b ≠ AMP) : splitAmp p = [p] := by
  induction p with
  | nil => rfl
  | cons c t ih =>
    unfold splitAmp
    have hc : (c == AMP) = false := by simpa using h c (by simp)
    simp only [hc, Bool.false_eq_true, if_false]
    rw [ih (fun b hb => h b (by simp [hb]))]

theorem splitAmp_cons_ne (c : UInt8) (rest : Bytes) (h : (c == AMP) = false) :
    splitAmp (c :: rest) = (match splitAmp rest with | p :: ps => (c :: p) :: ps | [] => [[c]]) := by
  simp [splitAmp, h]

theorem splitAmp_append (p rest : Bytes) (h : ∀ b ∈ p, b ≠ AMP) : splitAmp (p ++ AMP :: rest) = p :: splitAmp rest := by
  induction p with
  | nil => simp [splitAmp]
  | cons c t ih =>
    have hc : (c == AMP) = false := by simpa using h c (by simp)
    rw [List.cons_append, splitAmp_cons_ne _ _ hc, ih (fun b hb => h b (by simp [hb]))]

theorem dropFinalEmpty_cons (p : Bytes) (l : List Bytes) (hl : l ≠ []) : dropFinalEmpty (p :: l) = p :: dropFinalEmpty l := by
  cases l with
  | nil => exact absurd rfl hl
  | cons q rest => rfl

theorem splitFirstEq_noeq (p : Bytes) (h : ∀ b ∈ p, b ≠ EQS) : splitFirstEq p = (p, []) := by
  have hq : ∀ b ∈ p, (b != EQS) = true := fun b hb => by simpa using h b hb
  unfold splitFirstEq
  rw [takeWhile_all _ p hq, dropWhile_all _ p hq]
  rfl

theorem splitFirstEq_eq (n v : Bytes) (h : ∀ b ∈ n, b ≠ EQS) : splitFirstEq (n ++ EQS :: v) = (n, v) := by
  have hq : ∀ b ∈ n, (b != EQS) = true := fun b hb => by simpa using h b hb
  unfold splitFirstEq
  rw [takeWhile_stop _ n EQS v hq (by simp), dropWhile_stop _ n EQS v hq (by simp)]
  rfl

theorem decOut_nil (cfg : DecoderCfg) : decOut cfg [] = [] := by
  unfold decOut urldecodeEx
  simp [urlLoop]


/-- the raw bytes of the piece under construction -/
def curA (a : A) : Bytes :=
  match a.state with
  | .key => a.pend
  | .value => a.name.getD [] ++ EQS :: a.pend

/-- invariant of the byte-at-a-time machine between two bytes: not finished, and the piece under construction contains no '&', its name
    part no '=' -/
structure InvA (a : A) : Prop where
  nc : a.complete = false
  pa : ∀ b ∈ a.pend, b ≠ AMP
  pk : a.state = .key → ∀ b ∈ a.pend, b ≠ EQS
  nv : a.state = .value → ∀ b ∈ a.name.getD [], b ≠ AMP ∧ b ≠ EQS

/-- the pair the machine reports when the piece under construction ends; after a name alone the empty value is not decoded -/
def pairA (cfg : DecoderCfg) (a : A) : Bytes × Bytes :=
  match a.state with
  | .key => (decOut cfg a.pend, [])
  | .value => (decOut cfg (a.name.getD []), decOut cfg a.pend)

theorem InvA.noamp {a : A} (hi : InvA a) : ∀ b ∈ curA a, b ≠ AMP := by
  unfold curA
  cases hs : a.state with
  | key => exact hi.pa
  | value =>
    exact List.forall_mem_append.mpr ⟨fun b hb => (hi.nv hs b hb).1, List.forall_mem_cons.mpr ⟨by decide, hi.pa⟩⟩

theorem InvA.pair {a : A} (hi : InvA a) (cfg : DecoderCfg) : pairOf cfg (curA a) = pairA cfg a := by
  unfold pairOf pairA curA
  cases hs : a.state with
  | key => simp only []; rw [splitFirstEq_noeq a.pend (hi.pk hs), decOut_nil]
  | value => simp only []; rw [splitFirstEq_eq _ _ (fun b hb => (hi.nv hs b hb).2)]

theorem dec_fst (cfg : DecoderCfg) (b : Bytes) (s : S) : (dec cfg b s).1 = decOut cfg b := by
  unfold dec decOut
  exact urldecodeEx_out cfg b s.flags 0 s.status 0

theorem dec_params (cfg : DecoderCfg) (b : Bytes) (s : S) : (dec cfg b s).2.params = s.params := by
  unfold dec; rfl

theorem fieldA_getD (a : A) : (fieldA a).getD [] = a.pend := by
  unfold fieldA
  split
  · rename_i h; simp [h]
  · rfl

theorem refPairs_amp (cfg : DecoderCfg) (p rest : Bytes) (hp : ∀ b ∈ p, b ≠ AMP) :
    refPairs cfg (p ++ AMP :: rest) = pairOf cfg p :: refPairs cfg rest := by
  unfold refPairs refRaw
  rw [splitAmp_append p rest hp, dropFinalEmpty_cons _ _ (splitAmp_ne_nil rest)]
  rfl

theorem refPairs_last (cfg : DecoderCfg) (p : Bytes) (hp : ∀ b ∈ p, b ≠ AMP) :
    refPairs cfg p = if p = [] then [] else [pairOf cfg p] := by
  unfold refPairs refRaw
  rw [splitAmp_noamp p hp]
  cases p <;> rfl

theorem closeA_frame (cfg : DecoderCfg) (a : A) (last : Option UInt8) :
    (closeA cfg a last).pend = [] ∧ (closeA cfg a last).complete = a.complete := by
  unfold closeA
  cases a.state with
  | value => exact ⟨rfl, rfl⟩
  | key =>
    dsimp only
    split
    · split <;> exact ⟨rfl, rfl⟩
    · exact ⟨rfl, rfl⟩

theorem closeA_params (cfg : DecoderCfg) (a : A) (last : Option UInt8) (h : a.complete = true ∨ last = some AMP) :
    (closeA cfg a last).params = if curA a = [] ∧ last ≠ some AMP then a.params else pairA cfg a :: a.params := by
  unfold closeA curA pairA
  have hc : (a.complete || last == some AMP) = true := by rcases h with h | h <;> simp [h]
  cases a.state with
  | key =>
    dsimp only
    rw [if_pos hc]
    by_cases hl : last = some AMP
    · simp [hl, ofS, toS, addParam, fieldA_getD, dec_fst, dec_params]
    · by_cases hpe : a.pend = []
      · simp [hl, hpe, fieldA, ofS, toS]
      · simp [hl, hpe, fieldA, ofS, toS, addParam, dec_fst, dec_params]
  | value => simp [ofS, toS, addParam2, fieldA_getD, dec_fst, dec_params]

theorem closeA_key_eq (cfg : DecoderCfg) (a : A) (hs : a.state = .key) (hc : a.complete = false) :
    (closeA cfg a (some EQS)).name.getD [] = a.pend ∧ (closeA cfg a (some EQS)).params = a.params := by
  unfold closeA
  have h2 : (some EQS == some AMP) = false := by decide
  simp only [hs, hc, h2, Bool.or_false, Bool.false_eq_true, if_false]
  exact ⟨fieldA_getD a, rfl⟩

theorem stepA_amp (cfg : DecoderCfg) (a : A) (hi : InvA a) :
    InvA (stepA cfg a AMP) ∧ curA (stepA cfg a AMP) = [] ∧ (stepA cfg a AMP).params = pairOf cfg (curA a) :: a.params := by
  have e : stepA cfg a AMP = { closeA cfg a (some AMP) with state := .key } := by
    rw [stepA_eq]; cases a.state <;> rfl
  have hf := closeA_frame cfg a (some AMP)
  have hp := closeA_params cfg a (some AMP) (Or.inr rfl)
  rw [e, hi.pair cfg]
  exact ⟨⟨hf.2.trans hi.nc, by simp [hf.1], by simp [hf.1], nofun⟩, hf.1, by simpa using hp⟩

theorem stepA_other (cfg : DecoderCfg) (a : A) (c : UInt8) (hi : InvA a) (hc : c ≠ AMP) :
    InvA (stepA cfg a c) ∧ curA (stepA cfg a c) = curA a ++ [c] ∧ (stepA cfg a c).params = a.params := by
  rw [stepA_eq]
  by_cases hd : delim a.state c = true
  · -- the '=' that ends the name
    have hk : a.state = .key ∧ c = EQS := by
      cases hs : a.state <;> simp_all [delim]
    obtain ⟨hs, he⟩ := hk
    subst he
    obtain ⟨hn, hp⟩ := closeA_key_eq cfg a hs hi.nc
    have hf := closeA_frame cfg a (some EQS)
    have ha : after a.state EQS = .value := by rw [hs]; rfl
    rw [if_pos hd, ha]
    refine ⟨⟨hf.2.trans hi.nc, by simp [hf.1], nofun, ?_⟩, ?_, hp⟩
    · intro _ b (hb : b ∈ (closeA cfg a (some EQS)).name.getD [])
      rw [hn] at hb
      exact ⟨hi.pa b hb, hi.pk hs b hb⟩
    · simp [curA, hs, hn, hf.1]
  · rw [if_neg hd]
    refine ⟨⟨hi.nc, List.forall_mem_append.mpr ⟨hi.pa, List.forall_mem_singleton.mpr hc⟩, ?_, hi.nv⟩, ?_, rfl⟩
    · intro (hs : a.state = .key)
      have he : c ≠ EQS := by intro he; simp [delim, hs, he] at hd
      exact List.forall_mem_append.mpr ⟨hi.pk hs, List.forall_mem_singleton.mpr he⟩
    · cases hs : a.state <;> simp [curA, hs]

theorem stepA_spec (cfg : DecoderCfg) (a : A) (c : UInt8) (rest : Bytes) (hi : InvA a) :
    InvA (stepA cfg a c) ∧
    (stepA cfg a c).params.reverse ++ refPairs cfg (curA (stepA cfg a c) ++ rest) =
      a.params.reverse ++ refPairs cfg (curA a ++ c :: rest) := by
  by_cases hc : c = AMP
  · subst hc
    obtain ⟨h1, h2, h3⟩ := stepA_amp cfg a hi
    refine ⟨h1, ?_⟩
    rw [h2, h3, refPairs_amp cfg (curA a) rest hi.noamp]
    simp
  · obtain ⟨h1, h2, h3⟩ := stepA_other cfg a c hi hc
    refine ⟨h1, ?_⟩
    rw [h2, h3, List.append_assoc]
    rfl

theorem finalizeA_spec (cfg : DecoderCfg) (a : A) (hi : InvA a) :
    (finalizeA cfg a).params.reverse = a.params.reverse ++ refPairs cfg (curA a) := by
  unfold finalizeA
  rw [closeA_params cfg { a with complete := true } none (Or.inl rfl), refPairs_last cfg (curA a) hi.noamp, hi.pair cfg]
  show (if curA a = [] ∧ none ≠ some AMP then a.params else pairA cfg a :: a.params).reverse = _
  by_cases hp : curA a = [] <;> simp [hp]

theorem machine_ref (cfg : DecoderCfg) (bytes : Bytes) (a : A) (hi : InvA a) :
    (finalizeA cfg (bytes.foldl (stepA cfg) a)).params.reverse = a.params.reverse ++ refPairs cfg (curA a ++ bytes) := by
  induction bytes generalizing a with
  | nil => simpa using finalizeA_spec cfg a hi
  | cons c rest ih =>
    have h := stepA_spec cfg a c rest hi
    rw [List.foldl_cons, ih _ h.1, h.2]

end Htp.Urlenc
