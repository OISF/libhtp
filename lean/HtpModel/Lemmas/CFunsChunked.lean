/- htp_parse_chunked_length (htp_util.c) as translated in HtpModel/Gen/CFuns.lean = the model's
   `Num.parseChunkedLength` for all byte strings: the value returned and what the function does to `*extension` (it is only ever set
   to 1, and exactly when the model's flag is set).

   Three loops: skip the control bytes (the data pointer moves: `data_off`), scan the hexadecimal digits, look for ';' behind them;
   then the digit run is handed to htp_parse_positive_integer_whitespace as (pointer, length) WITH MORE BYTES BEHIND IT: the callee
   gets `List.drop data_off data` and `len = i`. What is used of the callee is therefore its (pointer, length) contract, an explicit
   HYPOTHESIS `hppiw` of the headline theorem (`PpiwContract` below): on an array `x ++ junk` with `len = x.length` the result is
   that of `x`. -/
import HtpModel.Lemmas.CFunsBase
import HtpModel.Lemmas.ListFacts
import HtpModel.Prim.Num
namespace Htp.CFuns
open Htp Htp.CSem Htp.Gen.C Htp.Gen
set_option linter.unusedSimpArgs false

/-- the (pointer, length) contract of the translated htp_parse_positive_integer_whitespace: the bytes behind `len` do not matter -/
def PpiwContract : Prop :=
  ∀ (fuel : Nat) (x junk : Bytes) (base : Nat), (x ++ junk).length < 9223372036854775808 → 2 ≤ base → base ≤ 36 → x.length + 1 < fuel →
    (htp_parse_positive_integer_whitespace fuel (x ++ junk) x.length base).map (·.1)
      = some (Num.parsePositiveIntegerWhitespace x base)

abbrev PS := St_htp_parse_chunked_length

theorem ctl_table : ∀ c : UInt8,
    (!((((((decide ((c.toNat : Int) = 13)) || (decide ((c.toNat : Int) = 10))) || (decide ((c.toNat : Int) = 32))) ||
        (decide ((c.toNat : Int) = 9))) || (decide ((c.toNat : Int) = 11))) || (decide ((c.toNat : Int) = 12)))) = !(isChunkedCtl c) := by
  apply forall_uint8_of_lt
  decide +kernel

theorem hex_table : ∀ c : UInt8,
    (!(((decide ((isdigitI (c.toNat : Int)) ≠ 0)) || ((decide ((c.toNat : Int) ≥ 97)) && (decide ((c.toNat : Int) ≤ 102)))) ||
        ((decide ((c.toNat : Int) ≥ 65)) && (decide ((c.toNat : Int) ≤ 70))))) = !(Num.isHexDigitC c) := by
  apply forall_uint8_of_lt
  decide +kernel

theorem semi_table (c : UInt8) : decide ((c.toNat : Int) = 59) = (c == 59) := dec_byte c 59

theorem takeWhile_append_drop (p : UInt8 → Bool) (l : Bytes) : l.takeWhile p ++ l.drop (l.takeWhile p).length = l := by
  rw [drop_takeWhile, List.takeWhile_append_dropWhile]

/-! ## loop 1: look for ';' behind the digits (only `j` and `extension` change) -/

theorem semi_loop (F : Nat) (data : Bytes) (h1 : data.length < 9223372036854775808) (off : Nat) (e c i c_ cl : Int)
    (a : Bytes) (j n : Nat) (ha : (data.drop off).drop j = a) (hn : a.length < n) :
    ∃ j' : Int,
      whileF (htp_parse_chunked_length_cond1 F data) (htp_parse_chunked_length_body1 F data) (htp_parse_chunked_length_incr1 F data) n
          (⟨((data.length - off : Nat) : Int), e, off, c, i, c_, j, cl⟩ : PS)
        = some (.next ⟨((data.length - off : Nat) : Int), if a.any (· == 59) then 1 else e, off, c, i, c_, j', cl⟩) := by
  have hb : ∀ (k : Nat) x t, (data.drop off).drop k = x :: t →
      htp_parse_chunked_length_body1 F data ⟨((data.length - off : Nat) : Int), e, off, c, i, c_, k, cl⟩
        = if x == 59 then some (.brk ⟨((data.length - off : Nat) : Int), 1, off, c, i, c_, k, cl⟩)
          else some (.next ⟨((data.length - off : Nat) : Int), e, off, c, i, c_, ((k + 1 : Nat) : Int), cl⟩) := by
    intro k x t hk
    have hl := lt_of_drop_cons hk
    rw [List.length_drop] at hl
    simp [htp_parse_chunked_length_body1, iteS_bind, assignS, rd_off hk, semi_table, u64_succ k (by omega)]
  have hc : ∀ (k : Nat) ev, htp_parse_chunked_length_cond1 F data ⟨((data.length - off : Nat) : Int), ev, off, c, i, c_, k, cl⟩
      = some (decide (k < (data.drop off).length)) := by
    intro k ev
    simp [htp_parse_chunked_length_cond1]
  obtain ⟨s', hw, j', rfl⟩ := scan_loop (cond := htp_parse_chunked_length_cond1 F data) (body := htp_parse_chunked_length_body1 F data)
    (incr := htp_parse_chunked_length_incr1 F data) (data.drop off) (fun x => !(x == 59))
    (fun k s => s = (⟨((data.length - off : Nat) : Int), e, off, c, i, c_, k, cl⟩ : PS))
    (fun _ r s => ∃ j' : Int, s = (⟨((data.length - off : Nat) : Int), if r.any (· == 59) then 1 else e, off, c, i, c_, j', cl⟩ : PS))
    (fun k s m hs hk => by
      subst hs
      exact ⟨_, whileF_exit m (by rw [hc, decide_eq_false (Nat.not_lt.mpr (le_of_drop_nil hk))]), k, rfl⟩)
    (fun k s m x t hs hk hx => by
      subst hs
      have hx' : (x == 59) = true := by simpa using hx
      exact ⟨_, whileF_brk m (by rw [hc, decide_eq_true (lt_of_drop_cons hk)]) (by rw [hb k x t hk, if_pos hx']), k, by simp [hx']⟩)
    (fun k s m x t hs hk hx => by
      subst hs
      have hx' : ¬ (x == 59) = true := by simpa using hx
      exact ⟨_, whileF_next m (by rw [hc, decide_eq_true (lt_of_drop_cons hk)]) (by rw [hb k x t hk, if_neg hx']) rfl, rfl⟩)
    a j n _ ha hn rfl
  exact ⟨j', by rw [hw, any_dropWhile_not]⟩

/-! ## loop 2: the run of hexadecimal digits (only `i` and `c_` change) -/

theorem hex_loop (F : Nat) (data : Bytes) (h1 : data.length < 9223372036854775808) (off : Nat) (e c j cl : Int)
    (a : Bytes) (i n : Nat) (c_ : Int) (ha : (data.drop off).drop i = a) (hn : a.length < n) :
    ∃ cv : Int,
      whileF (htp_parse_chunked_length_cond2 F data) (htp_parse_chunked_length_body2 F data) (htp_parse_chunked_length_incr2 F data) n
          (⟨((data.length - off : Nat) : Int), e, off, c, i, c_, j, cl⟩ : PS)
        = some (.next ⟨((data.length - off : Nat) : Int), e, off, c, ((i + (a.takeWhile Num.isHexDigitC).length : Nat) : Int), cv, j, cl⟩) := by
  have hb : ∀ (k : Nat) cv x t, (data.drop off).drop k = x :: t →
      htp_parse_chunked_length_body2 F data ⟨((data.length - off : Nat) : Int), e, off, c, k, cv, j, cl⟩
        = if Num.isHexDigitC x then some (.next ⟨((data.length - off : Nat) : Int), e, off, c, ((k + 1 : Nat) : Int), (x.toNat : Int), j, cl⟩)
          else some (.brk ⟨((data.length - off : Nat) : Int), e, off, c, k, (x.toNat : Int), j, cl⟩) := by
    intro k cv x t hk
    have hl := lt_of_drop_cons hk
    rw [List.length_drop] at hl
    simp only [htp_parse_chunked_length_body2, seqS_assignS, seqS_iteS, seqS_brkS, seqS_skipS, assignS, rd_off hk, Option.bind_some,
      Option.map_some, hex_table, u64_succ k (by omega)]
    cases Num.isHexDigitC x <;> rfl
  have hc : ∀ (k : Nat) cv, htp_parse_chunked_length_cond2 F data ⟨((data.length - off : Nat) : Int), e, off, c, k, cv, j, cl⟩
      = some (decide (k < (data.drop off).length)) := by
    intro k cv
    simp [htp_parse_chunked_length_cond2]
  obtain ⟨s', hw, cv, rfl⟩ := scan_loop (cond := htp_parse_chunked_length_cond2 F data) (body := htp_parse_chunked_length_body2 F data)
    (incr := htp_parse_chunked_length_incr2 F data) (data.drop off) Num.isHexDigitC
    (fun k s => ∃ cv : Int, s = (⟨((data.length - off : Nat) : Int), e, off, c, k, cv, j, cl⟩ : PS))
    (fun k _ s => ∃ cv : Int, s = (⟨((data.length - off : Nat) : Int), e, off, c, k, cv, j, cl⟩ : PS))
    (fun k s m hs hk => by
      obtain ⟨cv, rfl⟩ := hs
      exact ⟨_, whileF_exit m (by rw [hc, decide_eq_false (Nat.not_lt.mpr (le_of_drop_nil hk))]), cv, rfl⟩)
    (fun k s m x t hs hk hx => by
      obtain ⟨cv, rfl⟩ := hs
      exact ⟨_, whileF_brk m (by rw [hc, decide_eq_true (lt_of_drop_cons hk)]) (by rw [hb k cv x t hk, hx]; rfl), _, rfl⟩)
    (fun k s m x t hs hk hx => by
      obtain ⟨cv, rfl⟩ := hs
      exact ⟨_, whileF_next m (by rw [hc, decide_eq_true (lt_of_drop_cons hk)]) (by rw [hb k cv x t hk, hx]; rfl) rfl, _, rfl⟩)
    a i n _ ha hn ⟨c_, rfl⟩
  exact ⟨cv, hw⟩

/-! ## loop 3: skip the control bytes (the pointer moves, `len` shrinks, `c` changes) -/

theorem ctl_loop (F : Nat) (data : Bytes) (h1 : data.length < 9223372036854775808) (e i c_ j cl : Int) (n : Nat) (c : Int)
    (hn : data.length < n) :
    ∃ cv : Int,
      whileF (htp_parse_chunked_length_cond3 F data) (htp_parse_chunked_length_body3 F data) (htp_parse_chunked_length_incr3 F data) n
          (⟨(data.length : Int), e, ((0 : Nat) : Int), c, i, c_, j, cl⟩ : PS)
        = some (.next ⟨((data.length - (data.takeWhile isChunkedCtl).length : Nat) : Int), e,
            (((data.takeWhile isChunkedCtl).length : Nat) : Int), cv, i, c_, j, cl⟩) := by
  have hb : ∀ (k : Nat) cv x t, data.drop k = x :: t →
      htp_parse_chunked_length_body3 F data ⟨((data.length - k : Nat) : Int), e, k, cv, i, c_, j, cl⟩
        = if isChunkedCtl x then some (.next ⟨((data.length - (k + 1) : Nat) : Int), e, ((k + 1 : Nat) : Int), (x.toNat : Int), i, c_, j, cl⟩)
          else some (.brk ⟨((data.length - k : Nat) : Int), e, k, (x.toNat : Int), i, c_, j, cl⟩) := by
    intro k cv x t hk
    have hl := lt_of_drop_cons hk
    have hu : u64 (((data.length - k : Nat) : Int) - 1) = ((data.length - (k + 1) : Nat) : Int) := by rw [u64_id] <;> omega
    simp only [htp_parse_chunked_length_body3, seqS_assignS, seqS_iteS, seqS_brkS, seqS_skipS, assignS, rd_of_drop hk, Option.bind_some,
      Option.map_some, ctl_table, hu]
    cases isChunkedCtl x <;> rfl
  have hc : ∀ (k : Nat) cv, htp_parse_chunked_length_cond3 F data ⟨((data.length - k : Nat) : Int), e, k, cv, i, c_, j, cl⟩
      = some (decide (k < data.length)) := by
    intro k cv
    have : (((data.length - k : Nat) : Int) ≠ 0) ↔ k < data.length := ⟨fun h => by omega, fun h => by omega⟩
    simp [htp_parse_chunked_length_cond3, this]
  obtain ⟨s', hw, cv, rfl⟩ := scan_loop (cond := htp_parse_chunked_length_cond3 F data) (body := htp_parse_chunked_length_body3 F data)
    (incr := htp_parse_chunked_length_incr3 F data) data isChunkedCtl
    (fun k s => ∃ cv : Int, s = (⟨((data.length - k : Nat) : Int), e, k, cv, i, c_, j, cl⟩ : PS))
    (fun k _ s => ∃ cv : Int, s = (⟨((data.length - k : Nat) : Int), e, k, cv, i, c_, j, cl⟩ : PS))
    (fun k s m hs hk => by
      obtain ⟨cv, rfl⟩ := hs
      exact ⟨_, whileF_exit m (by rw [hc, decide_eq_false (Nat.not_lt.mpr (le_of_drop_nil hk))]), cv, rfl⟩)
    (fun k s m x t hs hk hx => by
      obtain ⟨cv, rfl⟩ := hs
      exact ⟨_, whileF_brk m (by rw [hc, decide_eq_true (lt_of_drop_cons hk)]) (by rw [hb k cv x t hk, hx]; rfl), _, rfl⟩)
    (fun k s m x t hs hk hx => by
      obtain ⟨cv, rfl⟩ := hs
      exact ⟨_, whileF_next m (by rw [hc, decide_eq_true (lt_of_drop_cons hk)]) (by rw [hb k cv x t hk, hx]; rfl) rfl, _, rfl⟩)
    data 0 n _ rfl hn ⟨c, rfl⟩
  exact ⟨cv, by simpa using hw⟩

/-- the statements from the call on -/
def callPart (F : Nat) (data : Bytes) : Stmt PS :=
  (seqS (assignS (fun s => (htp_parse_positive_integer_whitespace F (List.drop (Int.toNat s.data_off) data) s.len 16).bind fun v1 => some { s with chunk_len := v1.1 }))
    (seqS (iteS (fun s => some (decide (s.chunk_len < 0)))
    (retS (fun s => some s.chunk_len))
    (skipS))
    (seqS (iteS (fun s => some (decide (s.chunk_len > 2147483647)))
    (retS (fun _ => some (-1)))
    (skipS))
    (retS (fun s => some s.chunk_len)))))

/-- value of the model once the digit run is parsed -/
def clamp (r : Int) : Int := if r < 0 then r else if r > (INT32_MAX' : Int) then -1 else r

theorem call_part (hppiw : PpiwContract) (F : Nat) (data : Bytes) (h1 : data.length < 9223372036854775808) (off : Nat)
    (x junk : Bytes) (hd : data.drop off = x ++ junk) (hF : x.length + 1 < F) (e c i c_ j cl : Int) :
    retWith St_htp_parse_chunked_length.extension (callPart F data ⟨(x.length : Int), e, off, c, i, c_, j, cl⟩)
      = some (clamp (Num.parsePositiveIntegerWhitespace x 16), e) := by
  have hlen : (x ++ junk).length < 9223372036854775808 := by
    have : (data.drop off).length ≤ data.length := by simp
    rw [hd] at this; omega
  have hcall := hppiw F x junk 16 hlen (by omega) (by omega) hF
  obtain ⟨v, hv, hv1⟩ := Option.map_eq_some_iff.mp hcall
  have hv' : htp_parse_positive_integer_whitespace F (List.drop (Int.toNat (off : Int)) data) (x.length : Int) 16 = some v := by
    rw [Int.toNat_natCast, hd]; exact hv
  generalize Num.parsePositiveIntegerWhitespace x 16 = r at hv1 ⊢
  have ha : (assignS (fun (s : PS) => (htp_parse_positive_integer_whitespace F (List.drop (Int.toNat s.data_off) data) s.len 16).bind
        fun v1 => some { s with chunk_len := v1.1 })) ⟨(x.length : Int), e, off, c, i, c_, j, cl⟩
      = some (.next ⟨(x.length : Int), e, off, c, i, c_, j, r⟩) := by
    simp only [assignS, hv', Option.bind_some, Option.map_some, hv1]
  unfold callPart
  rw [seqS_next ha]
  unfold clamp INT32_MAX'
  by_cases hneg : r < 0
  · simp [seqS, iteS, retS, skipS, retWith, hneg]
  · by_cases hbig : r > 2147483647
    · simp [seqS, iteS, retS, skipS, retWith, hneg, hbig]
    · simp [seqS, iteS, retS, skipS, retWith, hneg, hbig]

theorem parseChunkedLength_unfold (data : Bytes) :
    Num.parseChunkedLength data =
      (if (data.dropWhile isChunkedCtl).length = 0 then (-1004, false) else
        (clamp (Num.parsePositiveIntegerWhitespace ((data.dropWhile isChunkedCtl).takeWhile Num.isHexDigitC) 16),
          ((data.dropWhile isChunkedCtl).drop ((data.dropWhile isChunkedCtl).takeWhile Num.isHexDigitC).length).any (· == 59))) := by
  unfold Num.parseChunkedLength clamp
  simp only
  split
  · rfl
  · split
    · rfl
    · split <;> rfl

/-- what follows the digit loop: `if (i != len) { look for ';'; len = i; }`, the call, the range check -/
theorem rest2_part (hppiw : PpiwContract) (F : Nat) (data : Bytes) (h1 : data.length < 9223372036854775808) (off : Nat)
    (d' : Bytes) (hd : data.drop off = d') (hF : d'.length + 1 < F) (e c c_ j cl : Int) :
    retWith St_htp_parse_chunked_length.extension (htp_parse_chunked_length_rest2 F data
        ⟨((data.length - off : Nat) : Int), e, off, c, (((d'.takeWhile Num.isHexDigitC).length : Nat) : Int), c_, j, cl⟩)
      = some (clamp (Num.parsePositiveIntegerWhitespace (d'.takeWhile Num.isHexDigitC) 16),
          if (d'.drop (d'.takeWhile Num.isHexDigitC).length).any (· == 59) then 1 else e) := by
  have hdl : d'.length = data.length - off := by rw [← hd]; simp
  have hk := (List.takeWhile_prefix (l := d') Num.isHexDigitC).length_le
  have hsplit := takeWhile_append_drop Num.isHexDigitC d'
  generalize hdig : d'.takeWhile Num.isHexDigitC = digits at hk hsplit ⊢
  have hd2 : data.drop off = digits ++ d'.drop digits.length := by rw [hd, hsplit]
  change retWith St_htp_parse_chunked_length.extension (seqS _ (callPart F data) _) = _
  by_cases hall : digits.length = d'.length
  · -- every byte is a digit: nothing behind the run
    have hc : (fun (s : PS) => some (decide (s.i ≠ s.len))) ⟨((data.length - off : Nat) : Int), e, off, c, (digits.length : Int), c_, j, cl⟩
        = some false := by
      have : (digits.length : Int) = ((data.length - off : Nat) : Int) := by omega
      simp [this]
    have hs : (iteS (fun (s : PS) => some (decide (s.i ≠ s.len)))
          (seqS (iteS (fun s => some true)
            (seqS (assignS (fun s => some { s with j := s.i })) (htp_parse_chunked_length_loop1 F data)) (skipS))
            (assignS (fun s => some { s with len := s.i })))
          (skipS)) ⟨((data.length - off : Nat) : Int), e, off, c, (digits.length : Int), c_, j, cl⟩
        = some (.next ⟨(digits.length : Int), e, off, c, (digits.length : Int), c_, j, cl⟩) := by
      unfold iteS
      rw [hc]
      have : ((data.length - off : Nat) : Int) = (digits.length : Int) := by omega
      rw [this]; rfl
    rw [seqS_next hs, call_part hppiw F data h1 off digits _ hd2 (by omega)]
    have : d'.drop digits.length = [] := by rw [hall]; simp
    simp [this]
  · have hc : (fun (s : PS) => some (decide (s.i ≠ s.len))) ⟨((data.length - off : Nat) : Int), e, off, c, (digits.length : Int), c_, j, cl⟩
        = some true := by
      have : ¬ ((digits.length : Int) = ((data.length - off : Nat) : Int)) := by omega
      simp [this]
    obtain ⟨j', hj'⟩ := semi_loop F data h1 off e c (digits.length : Int) c_ cl (d'.drop digits.length) digits.length F
      (by rw [hd]) (by simp; omega)
    have hs : (iteS (fun (s : PS) => some (decide (s.i ≠ s.len)))
          (seqS (iteS (fun s => some true)
            (seqS (assignS (fun s => some { s with j := s.i })) (htp_parse_chunked_length_loop1 F data)) (skipS))
            (assignS (fun s => some { s with len := s.i })))
          (skipS)) ⟨((data.length - off : Nat) : Int), e, off, c, (digits.length : Int), c_, j, cl⟩
        = some (.next ⟨(digits.length : Int), if (d'.drop digits.length).any (· == 59) then 1 else e, off, c, (digits.length : Int), c_, j', cl⟩) := by
      unfold iteS
      rw [hc]
      simp only [htp_parse_chunked_length_loop1, htp_parse_chunked_length_rest1, seqS, assignS, skipS, Option.map_some, hj']
    rw [seqS_next hs, call_part hppiw F data h1 off digits _ hd2 (by omega)]

theorem htp_parse_chunked_length_eq (hppiw : PpiwContract) (d : Bytes) (h1 : d.length < 9223372036854775808) (fuel : Nat)
    (hf : d.length + 1 < fuel) (e0 : Int) :
    (htp_parse_chunked_length fuel d d.length e0).map (fun r => (r.1, r.2.extension))
      = some ((Num.parseChunkedLength d).1, if (Num.parseChunkedLength d).2 then 1 else e0) := by
  unfold htp_parse_chunked_length
  rw [run_retWith St_htp_parse_chunked_length.extension]
  unfold htp_parse_chunked_length_stmt htp_parse_chunked_length_loop3
  obtain ⟨cv, hw⟩ := ctl_loop fuel d h1 e0 0 0 0 0 fuel 0 (by omega)
  have hd := drop_takeWhile isChunkedCtl d
  have hle := (List.takeWhile_prefix (l := d) isChunkedCtl).length_le
  generalize (d.takeWhile isChunkedCtl).length = off' at hw hd hle
  have hs : ({ len := d.length, extension := e0 } : PS) = ⟨(d.length : Int), e0, ((0 : Nat) : Int), 0, 0, 0, 0, 0⟩ := rfl
  rw [hs, seqS_next hw, parseChunkedLength_unfold]
  generalize hd' : d.dropWhile isChunkedCtl = d' at hd ⊢
  have hdl : d'.length = d.length - off' := by rw [← hd]; simp
  rw [← hdl]
  unfold htp_parse_chunked_length_rest3
  by_cases hz : d'.length = 0
  · simp [seqS, iteS, retS, skipS, retWith, hz]
  · have hnz : ¬ ((d'.length : Int) = 0) := by omega
    have h0 : (iteS (fun (s : PS) => some (decide (s.len = 0))) (retS (fun _ => some (-1004))) skipS)
        ⟨(d'.length : Int), e0, off', cv, 0, 0, 0, 0⟩ = some (.next ⟨(d'.length : Int), e0, off', cv, 0, 0, 0, 0⟩) := by
      simp only [iteS, skipS, hnz, decide_false]
    have h1' : (assignS (fun (s : PS) => some { s with i := 0 })) ⟨(d'.length : Int), e0, off', cv, 0, 0, 0, 0⟩
        = some (.next ⟨((d.length - off' : Nat) : Int), e0, off', cv, ((0 : Nat) : Int), 0, 0, 0⟩) := by
      simp [assignS, hdl]
    rw [seqS_next h0, seqS_next h1']
    unfold htp_parse_chunked_length_loop2
    obtain ⟨cv2, hw2⟩ := hex_loop fuel d h1 off' e0 cv 0 0 d' 0 fuel 0 (by simpa using hd) (by omega)
    rw [seqS_next hw2, Nat.zero_add, rest2_part hppiw fuel d h1 off' d' hd (by omega), if_neg hz]

end Htp.CFuns

#print axioms Htp.CFuns.htp_parse_chunked_length_eq
