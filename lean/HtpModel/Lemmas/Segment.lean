/- Segmentation lemmas: the "field under construction" of a direction and how buffering, the next chunk, consolidation,
   byte copying and the REQ_LINE loop act on it. The property-level statements are in Props/C03.lean. `Dir.Sane` is `WFCur`
   (Lemmas/DirInv.lean) with `len = |chunk|` and the int64 cap; `copyByte` and `peekSet` keep it; it is not an instance of the walk
   (`DirInv`), and no lemma leads from one to the other. -/
import HtpModel.Lemmas.DriverPass
import HtpModel.Lemmas.Cursor
namespace Htp.Conn
open Htp Htp.Gen

/-- the bytes of the field under construction: what earlier calls set aside, then the unconsumed part of the current chunk -/
def Dir.pending (d : Dir) : Bytes := d.buf.getD [] ++ sliceCur d d.consume d.read

/-- the cursors of a direction are inside its (non-NULL) chunk, whose length is an int64 -/
structure Dir.Sane (d : Dir) : Prop where
  nn : d.curNull = false
  c0 : 0 ≤ d.consume
  cr : d.consume ≤ d.read
  rl : d.read ≤ d.len
  ll : d.len = d.cur.length
  l63 : d.len < 9223372036854775808

theorem sliceCur_empty (d : Dir) (a : Int) : sliceCur d a a = [] := by
  unfold sliceCur; simp

/-- Setting aside the unconsumed tail of a chunk at the end of a call does not change the bytes
    of the field under construction, and leaves nothing unconsumed. -/
theorem seg_buffer_pending (d d' : Dir) (hard : Nat) (skip : Bool) (hs : d.Sane) (h : d.buffer hard skip = some d') :
    d'.pending = d.pending ∧ d'.consume = d'.read := by
  rcases Dir.buffer_eq h with ⟨rfl, hn | ⟨_, h0⟩⟩ | ⟨_, _, rfl⟩
  · rw [hs.nn] at hn; cases hn
  · refine ⟨rfl, ?_⟩
    rw [sizeOfInt_nonneg _ (by have := hs.cr; omega) (by have := hs.rl; have := hs.l63; have := hs.c0; omega)] at h0
    have := hs.cr
    omega
  · unfold Dir.pending
    simp [sliceCur_empty]

/-- When a call ended with nothing unconsumed, handing the parser the next chunk leaves the field under
    construction as it was. -/
theorem seg_next_chunk_pending (c : Conn) (data : Bytes) (h : c.inn.consume = c.inn.read) :
    (reqStoreChunk (some data) data.length c).inn.pending = c.inn.buf.getD [] ∧
    c.inn.pending = c.inn.buf.getD [] := by
  unfold reqStoreChunk Dir.pending
  simp [sliceCur_empty, h]

theorem seg_copyByte_pending (d d' : Dir) (b : UInt8) (hs : d.Sane) (h : d.copyByte = some (d', b)) :
    d'.pending = d.pending ++ [b] ∧ d'.Sane ∧ d.cur[d.read.toNat]? = some b := by
  obtain ⟨hlt, e, hb⟩ := Dir.copyByte_eq h
  have hidx : d.read.toNat < d.cur.length := by have := hs.ll; have := hs.cr; have := hs.c0; omega
  have hget : d.cur[d.read.toNat]? = some b := by rw [hb, List.getElem?_eq_getElem hidx]; rfl
  rw [e]
  refine ⟨?_, ⟨hs.nn, hs.c0, by have := hs.cr; simp; omega, by simp; omega, hs.ll, hs.l63⟩, hget⟩
  unfold Dir.pending sliceCur
  simp only [List.append_assoc]
  congr 1
  have e1 : (d.read + 1 - d.consume).toNat = (d.read - d.consume).toNat + 1 := by have := hs.cr; omega
  rw [e1, List.take_add_one]
  congr 1
  have e2 : (d.consume.toNat + (d.read - d.consume).toNat) = d.read.toNat := by have := hs.cr; have := hs.c0; omega
  rw [List.getElem?_drop, e2, hget]
  rfl

theorem peekSet_pending (d : Dir) : d.peekSet.1.pending = d.pending := rfl
theorem peekSet_sane (d : Dir) (h : d.Sane) : d.peekSet.1.Sane := ⟨h.nn, h.c0, h.cr, h.rl, h.ll, h.l63⟩

section
variable (cfg : Cfg)

theorem reqLineLoop_step (fuel : Nat) (c : Conn) (hs : c.inn.Sane) (hst : (c.inn.status == STREAM_CLOSED) = false)
    (hlt : c.inn.read < c.inn.len) :
    ∃ d1 b, c.inn.cur[c.inn.read.toNat]? = some b ∧ d1.pending = c.inn.pending ++ [b] ∧ d1.Sane ∧ d1.status = c.inn.status ∧
      d1.cur = c.inn.cur ∧ d1.read = c.inn.read + 1 ∧
      reqLineLoop cfg (fuel + 1) c =
        if b == LF then reqLineComplete cfg { c with inn := d1 } else reqLineLoop cfg fuel { c with inn := d1 } := by
  have hsp := peekSet_sane _ hs
  have hst' : (c.inn.peekSet.1.status == STREAM_CLOSED) = false := hst
  cases hcb : c.inn.peekSet.1.copyByte with
  | none =>
    have : c.inn.len ≤ c.inn.read := Dir.copyByte_none_iff.1 hcb
    omega
  | some p =>
    obtain ⟨d1, b⟩ := p
    have h3 := seg_copyByte_pending _ d1 b hsp hcb
    have h4 : d1.status = c.inn.peekSet.1.status ∧ d1.cur = c.inn.peekSet.1.cur ∧ d1.read = c.inn.peekSet.1.read + 1 := by
      rw [(Dir.copyByte_eq hcb).2.1]; exact ⟨rfl, rfl, rfl⟩
    refine ⟨d1, b, h3.2.2, by rw [h3.1, peekSet_pending], h3.2.1, h4.1, h4.2.1, h4.2.2, ?_⟩
    rw [reqLineLoop_succ]
    simp only [hst', Bool.false_and, Bool.false_eq_true, if_false, hcb]

theorem drop_head (l : Bytes) (n : Nat) (x : UInt8) (t : Bytes) (h : l.drop n = x :: t) : l[n]? = some x ∧ l.drop (n + 1) = t := by
  constructor
  · have : (l.drop n)[0]? = some x := by rw [h]; rfl
    rw [List.getElem?_drop] at this
    simpa using this
  · have : l.drop (n + 1) = (l.drop n).drop 1 := by rw [List.drop_drop]
    rw [this, h]; rfl

theorem read_lt_of_drop (c : Conn) (hs : c.inn.Sane) (x : UInt8) (t : Bytes) (h : c.inn.cur.drop c.inn.read.toNat = x :: t) :
    c.inn.read < c.inn.len := by
  have hl : (c.inn.cur.drop c.inn.read.toNat).length = t.length + 1 := by rw [h]; simp
  simp only [List.length_drop] at hl
  have := hs.ll; have := hs.cr; have := hs.c0; omega

/-- a turn on a byte that is not LF: the byte joins the field under construction and the loop goes on behind it -/
theorem reqLineLoop_skip (x : UInt8) (t : Bytes) (k : Nat) (c : Conn) (hs : c.inn.Sane) (hst : (c.inn.status == STREAM_CLOSED) = false)
    (hcur : c.inn.cur.drop c.inn.read.toNat = x :: t) (hx : x ≠ LF) :
    ∃ d1, reqLineLoop cfg (k + 1) c = reqLineLoop cfg k { c with inn := d1 } ∧ d1.pending = c.inn.pending ++ [x] ∧ d1.Sane ∧
      d1.status = c.inn.status ∧ d1.cur.drop d1.read.toNat = t := by
  obtain ⟨d1, b, hb, hp, hs1, hst1, hc1, hr1, heq⟩ := reqLineLoop_step cfg k c hs hst (read_lt_of_drop c hs x t hcur)
  have hd := drop_head _ _ _ _ hcur
  rw [hd.1] at hb
  obtain rfl : x = b := Option.some.inj hb
  have hx' : (x == LF) = false := by simpa using hx
  simp only [hx', Bool.false_eq_true, if_false] at heq
  have hread : d1.read.toNat = c.inn.read.toNat + 1 := by rw [hr1]; have := hs.cr; have := hs.c0; omega
  exact ⟨d1, heq, hp, hs1, hst1, by rw [hc1, hread]; exact hd.2⟩

/-- If the unread part of the chunk is `pre ++ LF :: rest` with no LF in
    `pre`, the request-line state hands `reqLineComplete` a direction whose field under construction is what was pending before
    the call followed by `pre` and the LF - however many earlier chunks contributed to what was pending. -/
theorem seg_reqLine_found (pre rest : Bytes) (fuel : Nat) (c : Conn) (hs : c.inn.Sane) (hst : (c.inn.status == STREAM_CLOSED) = false)
    (hcur : c.inn.cur.drop c.inn.read.toNat = pre ++ LF :: rest) (hpre : ∀ b ∈ pre, b ≠ LF) (hf : pre.length + 1 ≤ fuel) :
    ∃ d', reqLineLoop cfg fuel c = reqLineComplete cfg { c with inn := d' } ∧
      d'.pending = c.inn.pending ++ pre ++ [LF] ∧ d'.Sane := by
  induction pre generalizing fuel c with
  | nil =>
    obtain ⟨k, rfl⟩ : ∃ k, fuel = k + 1 := ⟨fuel - 1, by omega⟩
    have hlt := read_lt_of_drop c hs LF rest hcur
    obtain ⟨d1, b, hb, hp, hs1, _, _, _, heq⟩ := reqLineLoop_step cfg k c hs hst hlt
    have := (drop_head _ _ _ _ hcur).1
    rw [this] at hb
    have hb' : b = LF := (Option.some.inj hb).symm
    subst hb'
    simp only [beq_self_eq_true, if_true] at heq
    exact ⟨d1, heq, by rw [hp]; simp, hs1⟩
  | cons x pre ih =>
    obtain ⟨k, rfl⟩ : ∃ k, fuel = k + 1 := ⟨fuel - 1, by simp at hf; omega⟩
    obtain ⟨d1, heq, hp, hs1, hst1, hc1⟩ := reqLineLoop_skip cfg x _ k c hs hst hcur (hpre x (by simp))
    obtain ⟨d', h1, h2, h3⟩ := ih k { c with inn := d1 } hs1 (by simpa [hst1] using hst) hc1
      (fun b' hb' => hpre b' (by simp [hb'])) (by simp at hf; omega)
    exact ⟨d', by rw [heq, h1], by rw [h2]; show d1.pending ++ pre ++ [LF] = _; rw [hp]; simp, h3⟩

/-- If the unread part of the chunk has no LF, the request-line state runs out of
    bytes (HTP_DATA_BUFFER) with the whole unread part added to the field under construction - nothing is parsed, no callback runs. -/
theorem seg_reqLine_more (tail : Bytes) (fuel : Nat) (c : Conn) (hs : c.inn.Sane) (hst : (c.inn.status == STREAM_CLOSED) = false)
    (hcur : c.inn.cur.drop c.inn.read.toNat = tail) (hnl : ∀ b ∈ tail, b ≠ LF) (hf : tail.length + 1 ≤ fuel) :
    ∃ d', reqLineLoop cfg fuel c = ({ c with inn := d' }, .dataBuffer) ∧ d'.pending = c.inn.pending ++ tail ∧ d'.Sane ∧ d'.read = d'.len ∧
      d'.status = c.inn.status := by
  induction tail generalizing fuel c with
  | nil =>
    obtain ⟨k, rfl⟩ : ∃ k, fuel = k + 1 := ⟨fuel - 1, by omega⟩
    have hge : ¬ c.inn.read < c.inn.len := by
      have hl : (c.inn.cur.drop c.inn.read.toNat).length = 0 := by rw [hcur]; rfl
      simp only [List.length_drop] at hl
      have := hs.ll; have := hs.rl; have := hs.cr; have := hs.c0; omega
    refine ⟨c.inn.peekSet.1, ?_, by rw [peekSet_pending]; simp, peekSet_sane _ hs, ?_, rfl⟩
    · rw [reqLineLoop_succ]
      have hst' : (c.inn.peekSet.1.status == STREAM_CLOSED) = false := hst
      have hcb : c.inn.peekSet.1.copyByte = none := Dir.copyByte_none_iff.2 (show c.inn.len ≤ c.inn.read by omega)
      simp only [hst', Bool.false_and, Bool.false_eq_true, if_false, hcb]
    · show c.inn.read = c.inn.len
      have := hs.rl; omega
  | cons x t ih =>
    obtain ⟨k, rfl⟩ : ∃ k, fuel = k + 1 := ⟨fuel - 1, by simp at hf; omega⟩
    obtain ⟨d1, heq, hp, hs1, hst1, hc1⟩ := reqLineLoop_skip cfg x t k c hs hst hcur (hnl x (by simp))
    obtain ⟨d', h1, h2, h3, h4, h5⟩ := ih k { c with inn := d1 } hs1 (by simpa [hst1] using hst) hc1
      (fun b' hb' => hnl b' (by simp [hb'])) (by simp at hf; omega)
    exact ⟨d', by rw [heq, h1], by rw [h2]; show d1.pending ++ t = _; rw [hp]; simp, h3, h4, by rw [h5]; exact hst1⟩
end
end Htp.Conn
