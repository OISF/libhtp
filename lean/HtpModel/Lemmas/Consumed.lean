/- ONE STATE FUNCTION of the request direction at a time (Lemmas/ConsumedCall.lean is the whole call): the answers the tx-level functions can
   give (`CbRc`, `NoData`; `says_txState*` for the ones whose answer a state function hands on), and what an answer says of the state
   the function leaves: HTP_OK (`OkP`), HTP_DATA / HTP_DATA_BUFFER (`Consumed`, C09), and the pair (`SaysAt`). The request state
   functions are walked for the pair in Lemmas/Answer.lean,
   the response ones in Lemmas/ConsumedOut.lean. Also here: the counted body states of both directions described exactly (`Took`, of
   `takeBody`, Lemmas/DriverPass.lean); Lemmas/Answer.lean and Lemmas/Owed*.lean read what they need of these states off it. -/
import HtpModel.Lemmas.TxWalk
import HtpModel.Lemmas.DirInv
import HtpModel.Lemmas.DriverRule
namespace Htp.Conn
open Htp Htp.Gen

def NoData (rc : Rc) : Prop := rc ≠ .data ∧ rc ≠ .dataBuffer

theorem NoData.ok : NoData Rc.ok := ⟨by decide, by decide⟩
theorem NoData.error : NoData Rc.error := ⟨by decide, by decide⟩
theorem NoData.stop : NoData Rc.stop := ⟨by decide, by decide⟩
theorem NoData.dataOther : NoData Rc.dataOther := ⟨by decide, by decide⟩

/-- an `if` between two answers, taken apart by unification (`split` would rewrite the whole goal) -/
theorem NoData.ite {p : Prop} [Decidable p] {a b : R} (ha : NoData a.2) (hb : NoData b.2) : NoData (if p then a else b).2 := by
  split
  · exact ha
  · exact hb

theorem noData_andThen (r : R) (f : Conn → R) (h1 : NoData r.2) (h2 : ∀ c, NoData (f c).2) : NoData (r >>? f).2 :=
  andThen_cases (Q := fun r => NoData r.2) r f (fun _ => h1) fun _ => h2 _

/-- the return codes a callback run can produce -/
def CbRc (rc : Rc) : Prop := rc = .ok ∨ rc = .stop ∨ rc = .error

theorem CbRc.noData {rc : Rc} (h : CbRc rc) : NoData rc := by
  rcases h with rfl | rfl | rfl <;> exact ⟨by decide, by decide⟩

theorem cbRc_runCallback (h : Hook) (uid : Option Nat) (data : Option Bytes) (l : Bool) (c : Conn) (g : Nat) (s : Bool) :
    CbRc (runCallback h uid data l c g s).2 := by
  unfold runCallback
  simp only
  cases lookupAction c.policy c.cbCount with
  | ok => exact Or.inl rfl
  | declined => exact Or.inl rfl
  | stop => exact Or.inr (Or.inl rfl)
  | error => exact Or.inr (Or.inr rfl)
  | destroyTx =>
    simp only
    cases uid.bind c.findTx with
    | none => exact Or.inl rfl
    | some t => simp only; split <;> exact Or.inl rfl
  | regTxHooks =>
    simp only
    cases uid with
    | none => exact Or.inl rfl
    | some u => exact Or.inl rfl

theorem noData_runCallback (h : Hook) (uid : Option Nat) (data : Option Bytes) (l : Bool) (c : Conn) (g : Nat) (s : Bool) :
    NoData (runCallback h uid data l c g s).2 := (cbRc_runCallback ..).noData

theorem noData_reqReceiverSend (l : Bool) (c : Conn) : NoData (reqReceiverSend l c).2 := by
  unfold reqReceiverSend
  cases c.inn.receiverHook with
  | none => exact NoData.ok
  | some h =>
    simp only
    apply noData_andThen
    · exact noData_runCallback ..
    · intro c2; exact NoData.ok

theorem noData_reqReceiverFinalizeClear (c : Conn) : NoData (reqReceiverFinalizeClear c).2 := by
  unfold reqReceiverFinalizeClear
  cases c.inn.receiverHook with
  | none => exact NoData.ok
  | some h => simp only; exact noData_reqReceiverSend true c

theorem noData_reqProcessBodyData (cfg : Cfg) (data : Option Bytes) (g : Nat) (c : Conn) : NoData (reqProcessBodyData cfg data g c).2 := by
  rcases reqProcessBodyData_rc cfg data g c with h | h <;> rw [h]
  · exact NoData.ok
  · exact NoData.error

theorem noData_txStateRequestCompletePartial (cfg : Cfg) (uid : Nat) (c : Conn) : NoData (txStateRequestCompletePartial cfg uid c).2 := by
  unfold txStateRequestCompletePartial
  simp only
  apply noData_andThen
  · split
    · exact noData_reqProcessBodyData ..
    · exact NoData.ok
  · intro c1
    apply noData_andThen
    · exact noData_runCallback ..
    · intro c2
      apply noData_andThen
      · exact noData_reqReceiverFinalizeClear c2
      · intro c3; exact NoData.ok

theorem noData_txProcessRequestHeadersTail (cfg : Cfg) (uid : Nat) (t : Tx) (ae : Bool) (c : Conn) :
    NoData (txProcessRequestHeadersTail cfg uid t ae c).2 := by
  unfold txProcessRequestHeadersTail
  split
  · exact NoData.error
  · apply noData_andThen
    · exact noData_reqReceiverFinalizeClear _
    · intro c1; exact noData_runCallback ..

theorem noData_txProcessRequestHeaders (cfg : Cfg) (uid : Nat) (c : Conn) : NoData (txProcessRequestHeaders cfg uid c).2 := by
  unfold txProcessRequestHeaders
  dsimp only
  exact noData_txProcessRequestHeadersTail ..

theorem noData_reqFlushHeader (c : Conn) : NoData (reqFlushHeader c).2 := by
  unfold reqFlushHeader
  cases c.inn.header with
  | none => exact NoData.ok
  | some h => simp only; split <;> first | exact NoData.error | exact NoData.ok

def Consumed (r : R) : Prop := (r.2 = Rc.data ∨ r.2 = Rc.dataBuffer) → r.1.inn.len ≤ r.1.inn.read

def OkP (P : Conn → Prop) (r : R) : Prop := r.2 = Rc.ok → P r.1

theorem okP_mk {P : Conn → Prop} {c : Conn} {rc : Rc} (h : P c) : OkP P (c, rc) := fun _ => h
theorem okP_ne {P : Conn → Prop} {r : R} (h : r.2 ≠ Rc.ok) : OkP P r := fun e => absurd e h
theorem okP_rc {P : Conn → Prop} {c : Conn} {rc : Rc} (h : rc ≠ Rc.ok) : OkP P (c, rc) := fun e => absurd e h
theorem okP_mono {P Q : Conn → Prop} {r : R} (h : OkP P r) (hpq : ∀ c, P c → Q c) : OkP Q r := fun e => hpq _ (h e)

theorem okP_andThen {P : Conn → Prop} (r : R) (f : Conn → R) (h : r.2 = Rc.ok → OkP P (f r.1)) : OkP P (r >>? f) :=
  andThen_cases r f okP_ne h

/-- what HTP_OK says of the cursors in a state that only consumes -/
def Adv (d d' : Dir) : Prop := d'.len = d.len ∧ d.read < d'.read

theorem copyByte_mv (d d' : Dir) (b : UInt8) (h : d.copyByte = some (d', b)) : d'.len = d.len ∧ d'.read = d.read + 1 := by
  rw [(Dir.copyByte_eq h).2.1]; exact ⟨rfl, rfl⟩

theorem nextByteConsume_mv (d d' : Dir) (b : UInt8) (h : d.nextByteConsume = some (d', b)) : d'.len = d.len ∧ d'.read = d.read + 1 := by
  rw [(Dir.nextByteConsume_eq h).2]; exact ⟨rfl, rfl⟩

/-- **what the answer `r.2` of a state function says of the state `r.1` it leaves**: HTP_OK gives `P`, the fact that makes the pass count
    as progress (C08); HTP_DATA / HTP_DATA_BUFFER give `U`, that the chunk is used up (C09; `Says` for the request direction, `SaysOut`
    for the response direction). A state function is walked once for the pair: every return point has exactly one answer, so one half
    is trivial there. The halves are read as `h.1 hok : P r.1` (with `hok : r.2 = .ok`) and `h.2 (.inl hdata) : U r.1`. -/
def SaysAt (U P : Conn → Prop) (r : R) : Prop := OkP P r ∧ ((r.2 = Rc.data ∨ r.2 = Rc.dataBuffer) → U r.1)

abbrev Says := SaysAt fun c => c.inn.len ≤ c.inn.read

section
variable {U P : Conn → Prop}

/-- the answer of a tx-level function handed on: never HTP_DATA -/
theorem says_tx {r : R} (ho : OkP P r) (hn : NoData r.2) : SaysAt U P r := ⟨ho, fun hd => (hd.elim hn.1 hn.2).elim⟩
theorem says_rc {c : Conn} {rc : Rc} (h : rc ≠ .ok) (hn : NoData rc) : SaysAt U P (c, rc) := says_tx (r := (c, rc)) (okP_rc h) hn
theorem says_ok {c : Conn} (h : P c) : SaysAt U P (c, .ok) := says_tx (r := (c, .ok)) (okP_mk h) .ok
theorem says_data {c : Conn} {rc : Rc} (h : rc ≠ .ok) (hc : U c) : SaysAt U P (c, rc) := ⟨okP_rc h, fun _ => hc⟩
theorem says_andThen (r : R) (f : Conn → R) (h1 : NoData r.2) (h2 : ∀ c, SaysAt U P (f c)) : SaysAt U P (r >>? f) :=
  andThen_cases r f (fun hn => says_tx (okP_ne hn) h1) fun _ => h2 _
theorem says_ite {p : Prop} [Decidable p] {a b : R} (ha : p → SaysAt U P a) (hb : ¬p → SaysAt U P b) : SaysAt U P (if p then a else b) :=
  ite_cases ha hb

/-- for a function that never answers HTP_DATA -/
abbrev SaysTx := SaysAt fun _ => False

theorem SaysAt.noData {r : R} (h : SaysTx P r) : NoData r.2 := ⟨fun e => h.2 (.inl e), fun e => h.2 (.inr e)⟩
theorem SaysAt.of_tx {Q : Conn → Prop} {r : R} (h : SaysTx P r) (hpq : ∀ c, P c → Q c) : SaysAt U Q r := says_tx (okP_mono h.1 hpq) h.noData
end

theorem modIn_inState (c : Conn) (f : Tx → Tx) : (c.modIn f).inState = c.inState := by
  unfold Conn.modIn; cases c.inn.tx <;> rfl

theorem says_txStateRequestStart (uid : Nat) (c : Conn) : SaysTx (fun c' => c'.inState = .line) (txStateRequestStart uid c) := by
  unfold txStateRequestStart
  exact says_andThen _ _ (noData_runCallback ..) fun c1 => says_ok (modIn_inState _ _)

theorem says_txStateRequestHeaders (cfg : Cfg) (uid : Nat) (c : Conn) :
    SaysTx (fun c' => c'.inState = .finalize ∨ c'.inState = .connectCheck) (txStateRequestHeaders cfg uid c) := by
  unfold txStateRequestHeaders
  simp only
  refine says_ite (fun _ => ?_) fun _ => says_ite (fun _ => ?_) fun _ => says_rc (by decide) .error
  · exact says_andThen _ _ (noData_runCallback ..) fun c1 =>
      says_andThen _ _ (noData_reqReceiverFinalizeClear _) fun c2 => says_ok (.inl rfl)
  · exact says_andThen _ _ (noData_txProcessRequestHeaders ..) fun c1 => says_ok (.inr rfl)

theorem says_txStateRequestComplete (cfg : Cfg) (uid : Nat) (c : Conn) :
    SaysTx (fun c' => c'.inState = .idle ∨ c'.inState = .ignoreDataAfter09) (txStateRequestComplete cfg uid c) := by
  unfold txStateRequestComplete
  simp only
  refine says_andThen _ _ (NoData.ite (noData_txStateRequestCompletePartial ..) .ok) fun c1 => says_ok ?_
  show (txFinalize cfg uid _).1.inState = .idle ∨ (txFinalize cfg uid _).1.inState = .ignoreDataAfter09
  rw [(walk_txFinalize (reqTx_cb fun _ => False) cfg uid _).inState]
  show (if _ then ReqState.ignoreDataAfter09 else ReqState.idle) = .idle ∨ (if _ then ReqState.ignoreDataAfter09 else ReqState.idle) = .ignoreDataAfter09
  split
  · exact .inr rfl
  · exact .inl rfl


/-! ### the counted body states (`takeBody`, Lemmas/DriverPass.lean): `Took` says exactly what the program does to (read offset, chunk
length, amount owed, parser state); what the development needs of the four functions is read off it. -/

/-- with `n` bytes taken: nothing was there; the hooks refused; the last bytes owed (the parser moves to `next`); more are owed -/
def TookN {σ : Type} (next : σ) (n : Int) (v : Int × Int × Int × σ) (rc : Rc) (v' : Int × Int × Int × σ) : Prop :=
  (n = 0 ∧ rc = .data ∧ v' = v) ∨ (n ≠ 0 ∧ rc ≠ .ok ∧ NoData rc ∧ v' = v) ∨
  (n ≠ 0 ∧ v.2.2.1 = n ∧ NoData rc ∧ v' = (v.1 + n, v.2.1, v.2.2.1 - n, next)) ∨
  (n ≠ 0 ∧ v.2.2.1 ≠ n ∧ rc = .data ∧ v' = (v.1 + n, v.2.1, v.2.2.1 - n, v.2.2.2))

/-- `v = (read, len, owed, state)` before, `v'` after, `rc` the answer -/
def Took {σ : Type} (next : σ) (v : Int × Int × Int × σ) (rc : Rc) (v' : Int × Int × Int × σ) : Prop :=
  ∃ n : Int, (n = v.2.2.1 ∧ v.2.2.1 ≤ v.2.1 - v.1 ∨ n = v.2.1 - v.1 ∧ v.2.1 - v.1 < v.2.2.1) ∧ TookN next n v rc v'

/-- `v` reads the four off a state; the hooks keep them and never answer HTP_DATA, `adv` moves them by `n`, `fin` moves the parser -/
theorem takeBody_took {σ : Type} {v : Conn → Int × Int × Int × σ} {next : σ} {avail owed : Conn → Int} {hook : Int → Conn → R}
    {adv : Int → Conn → Conn} {fin : Conn → R} (ha : ∀ c, avail c = (v c).2.1 - (v c).1) (ho : ∀ c, owed c = (v c).2.2.1)
    (hh : ∀ n c, v (hook n c).1 = v c ∧ NoData (hook n c).2)
    (hd : ∀ n c, v (adv n c) = ((v c).1 + n, (v c).2.1, (v c).2.2.1 - n, (v c).2.2.2))
    (hf : ∀ c, v (fin c).1 = ((v c).1, (v c).2.1, (v c).2.2.1, next) ∧ NoData (fin c).2) (c : Conn) :
    Took next (v c) (takeBody avail owed hook adv fin c).2 (v (takeBody avail owed hook adv fin c).1) := by
  unfold takeBody
  extract_lets n
  have hn : n = (v c).2.2.1 ∧ (v c).2.2.1 ≤ (v c).2.1 - (v c).1 ∨ n = (v c).2.1 - (v c).1 ∧ (v c).2.1 - (v c).1 < (v c).2.2.1 := by
    simp only [n, ha, ho]
    split <;> omega
  clear_value n
  refine ⟨n, hn, ?_⟩
  refine ite_cases (P := fun r : R => TookN next n (v c) r.2 (v r.1)) (fun h0 => .inl ⟨by simpa using h0, rfl, rfl⟩) fun h0 => ?_
  have h0' : n ≠ 0 := by simpa using h0
  obtain ⟨kv, kn⟩ := hh n c
  generalize hook n c = r1 at kv kn ⊢
  obtain ⟨c1, rc1⟩ := r1
  simp only at kv kn ⊢
  refine ite_cases (P := fun r : R => TookN next n (v c) r.2 (v r.1)) (fun h1 => .inr (.inl ⟨h0', by simpa using h1, kn, kv⟩)) fun _ => ?_
  have e2 : v (adv n c1) = ((v c).1 + n, (v c).2.1, (v c).2.2.1 - n, (v c).2.2.2) := by rw [hd, kv]
  have eo : owed (adv n c1) = (v c).2.2.1 - n := by rw [ho, e2]
  refine ite_cases (P := fun r : R => TookN next n (v c) r.2 (v r.1)) (fun h2 => ?_) fun h2 => ?_
  · have h2' : owed (adv n c1) = 0 := by simpa using h2
    obtain ⟨fv, fn⟩ := hf (adv n c1)
    exact .inr (.inr (.inl ⟨h0', by omega, fn, by rw [fv, e2]⟩))
  · have h2' : owed (adv n c1) ≠ 0 := by simpa using h2
    exact .inr (.inr (.inr ⟨h0', by omega, rfl, e2⟩))

section
variable {σ : Type} {next : σ} {v v' : Int × Int × Int × σ} {rc : Rc}

/-- with a positive amount owed, HTP_DATA means the chunk is used up -/
theorem Took.consumed (h : Took next v rc v') (ho : 0 < v.2.2.1) (hd : rc = .data ∨ rc = .dataBuffer) : v'.2.1 ≤ v'.1 := by
  obtain ⟨n, hn, h⟩ := h
  have nd : ∀ {rc}, NoData rc → ¬ (rc = .data ∨ rc = .dataBuffer) := fun n e => e.elim n.1 n.2
  rcases h with ⟨_, _, rfl⟩ | ⟨_, _, n1, _⟩ | ⟨_, _, n1, _⟩ | ⟨_, _, _, rfl⟩
  · omega
  · exact absurd hd (nd n1)
  · exact absurd hd (nd n1)
  · show v.2.1 ≤ v.1 + n; omega

/-- HTP_OK means the parser has moved on, the read offset with it -/
theorem Took.ok (h : Took next v rc v') (hok : rc = .ok) :
    v'.2.2.2 = next ∧ v'.2.1 = v.2.1 ∧ (v.1 ≤ v.2.1 → 0 < v.2.2.1 → v.1 < v'.1) := by
  obtain ⟨n, hn, h⟩ := h
  rcases h with ⟨_, e, _⟩ | ⟨_, e, _⟩ | ⟨_, _, _, rfl⟩ | ⟨_, _, e, _⟩
  · rw [hok] at e; cases e
  · exact absurd hok e
  · exact ⟨rfl, rfl, fun _ _ => by show v.1 < v.1 + n; omega⟩
  · rw [hok] at e; cases e

/-- whatever the answer: the parser has moved on, or a positive amount is still owed in the same state (also when nothing moved) -/
theorem Took.owes (h : Took next v rc v') (ho : 0 < v.2.2.1) :
    v'.2.2.2 = next ∨ (0 < v'.2.2.1 ∧ v'.2.2.2 = v.2.2.2) := by
  obtain ⟨n, hn, h⟩ := h
  rcases h with ⟨_, _, rfl⟩ | ⟨_, _, _, rfl⟩ | ⟨_, _, _, rfl⟩ | ⟨_, _, _, rfl⟩
  · exact .inr ⟨ho, rfl⟩
  · exact .inr ⟨ho, rfl⟩
  · exact .inl rfl
  · exact .inr ⟨by show 0 < v.2.2.1 - n; omega, rfl⟩

end

theorem took_reqBodyIdentity (cfg : Cfg) (c : Conn) :
    Took ReqState.finalize (c.inn.read, c.inn.len, c.inn.bodyDataLeft, c.inState) (reqBodyIdentity cfg c).2
      ((reqBodyIdentity cfg c).1.inn.read, (reqBodyIdentity cfg c).1.inn.len, (reqBodyIdentity cfg c).1.inn.bodyDataLeft,
        (reqBodyIdentity cfg c).1.inState) := by
  rw [reqBodyIdentity_eq cfg c]
  exact takeBody_took (v := fun c => (c.inn.read, c.inn.len, c.inn.bodyDataLeft, c.inState)) (fun _ => rfl) (fun _ => rfl)
    (fun n c => ⟨congrArg (fun x : Int × Int × Int × Int × ReqState => (x.1, x.2.1, x.2.2.1, x.2.2.2.2)) (reqTx_reqProcessBodyData ..).body,
      noData_reqProcessBodyData ..⟩)
    (fun n c => by simp only [modIn_inn, modIn_inState]; rfl) (fun c => ⟨rfl, NoData.ok⟩) c

theorem took_reqBodyChunkedData (cfg : Cfg) (c : Conn) :
    Took ReqState.bodyChunkedDataEnd (c.inn.read, c.inn.len, c.inn.chunkedLength, c.inState) (reqBodyChunkedData cfg c).2
      ((reqBodyChunkedData cfg c).1.inn.read, (reqBodyChunkedData cfg c).1.inn.len, (reqBodyChunkedData cfg c).1.inn.chunkedLength,
        (reqBodyChunkedData cfg c).1.inState) := by
  rw [reqBodyChunkedData_eq cfg c]
  exact takeBody_took (v := fun c => (c.inn.read, c.inn.len, c.inn.chunkedLength, c.inState)) (fun _ => rfl) (fun _ => rfl)
    (fun n c => ⟨congrArg (fun x : Int × Int × Int × Int × ReqState => (x.1, x.2.1, x.2.2.2.1, x.2.2.2.2)) (reqTx_reqProcessBodyData ..).body,
      noData_reqProcessBodyData ..⟩)
    (fun n c => by simp only [modIn_inn, modIn_inState]; rfl) (fun c => ⟨rfl, NoData.ok⟩) c

theorem noData_reqHeaderLine (line : Bytes) (c : Conn) : NoData (reqHeaderLine line c).2 := by
  unfold reqHeaderLine
  apply NoData.ite
  · apply noData_andThen _ _ (noData_reqFlushHeader _)
    intro c1
    dsimp only
    cases c1.inn.peekSet.2 with
    | none => exact NoData.ok
    | some b => dsimp only; repeat' apply NoData.ite <;> first | exact NoData.ok | exact NoData.error
  · cases c.inn.header with
    | none => exact NoData.ok
    | some h => exact NoData.ite NoData.ok NoData.ok

theorem sliceCur_nonempty (d : Dir) (w : WFCur d) (h : d.consume < d.read) : sliceCur d d.consume d.read ≠ [] := by
  unfold sliceCur
  intro he
  have hl := congrArg List.length he
  simp only [List.length_take, List.length_drop, List.length_nil] at hl
  have := w.c0; have := w.rl; have := w.lc
  omega

theorem consolidate_nonempty (d d2 : Dir) (hard : Nat) (data : Bytes) (w : WFCur d) (hlt : d.consume < d.read)
    (h : d.consolidate hard true = some (d2, data)) : data ≠ [] := by
  have hne := sliceCur_nonempty d w hlt
  rcases Dir.consolidate_eq h with ⟨_, _, rfl⟩ | ⟨_, hb, rfl⟩
  · exact hne
  · rcases Dir.buffer_eq hb with ⟨_, hn | ⟨_, h0⟩⟩ | ⟨_, _, rfl⟩
    · rw [w.notNull] at hn; cases hn
    · rw [sizeOfInt_nonneg _ (by omega) (by have := w.rl; have := w.small; have := w.c0; omega)] at h0; omega
    · simp only [Option.getD_some]
      intro he
      exact hne (List.append_eq_nil_iff.mp he).2

end Htp.Conn
