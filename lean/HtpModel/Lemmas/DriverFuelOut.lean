/- C08 "work is linear", the RESPONSE driver: how many passes the `for (;;)` of htp_connp_res_data makes in one call.

   The bound itself is NOT proved for this direction. Open: what HTP_OK says of RES_LINE, RES_HEADERS, RES_BODY_CHUNKED_LENGTH and
   RES_FINALIZE (the last two take the read offset back), a rank of the response states, and the invariant along the call that pays for
   the un-reads. Proved:
   * the loop machinery, as for the request driver (Lemmas/DriverFuel.lean); the loop theorem for ANY measure that every continuing
     pass decreases is `C08_res_driver_passes_partial` (Props/C08.lean) - that hypothesis is what the open lemmas would supply.
     Expected measure: `8 * (len - read) + rank(outState, available, pending)` for every state but RES_BODY_IDENTITY_STREAM_CLOSE, whose
     measure is a constant (it answers HTP_OK only on a closed stream, `resStreamClose_ok_closed`; this pays for the un-read of
     RES_BODY_CHUNKED_LENGTH). The un-read of RES_FINALIZE goes back to `consume - |buf|` (or 0), so the measure needs the invariant
     "in RES_FINALIZE consume = read, and a buffered line only with read = 0" along the call, and `out.status ≠ STREAM_CLOSED` unless
     `len = 0` (see `res_closed_with_data_spins`);
   * `res_closed_with_data_spins`, a state-level witness: a whole-call theorem needs `c.out.status ≠ STREAM_CLOSED` for a data chunk;
   * what HTP_OK says of six state functions (read off Lemmas/ConsumedOut.lean): RES_IDLE (`idleO_resIdle`), RES_BODY_DETERMINE
     (`fwdO_resBodyDetermine`), the three that only consume (`advO_*`: RES_BODY_IDENTITY_CL_KNOWN on an open stream,
     RES_BODY_CHUNKED_DATA, RES_BODY_CHUNKED_DATA_END), and RES_BODY_IDENTITY_STREAM_CLOSE (`resStreamClose_ok_closed`). -/
import HtpModel.Lemmas.DriverFuel
import HtpModel.Lemmas.OwedOut
namespace Htp.Conn
open Htp Htp.Gen

/-- the state the next pass of the `for (;;)` starts from - `none` when this pass ends the call (as `reqNext`) -/
def resNext (cfg : Cfg) (c : Conn) : Option Conn :=
  if (resStateFn cfg c).2 = Rc.ok ∧ ((resStateFn cfg c).1.out.status == STREAM_TUNNEL) = false then
    if (resHandleStateChange (resStateFn cfg c).1).2 = Rc.ok ∧
        ((resHandleStateChange (resStateFn cfg c).1).1.out.status == STREAM_TUNNEL) = false then
      some (resHandleStateChange (resStateFn cfg c).1).1
    else none
  else none

theorem resNext_eq (cfg : Cfg) (c : Conn) :
    resNext cfg c =
      if (resPass cfg c).2 = .ok ∧ ((resPass cfg c).1.out.status == STREAM_TUNNEL) = false then
        some (resPass cfg c).1
      else none := by
  unfold resNext resPass resPassHook
  generalize resStateFn cfg c = r
  by_cases h1 : r.2 = .ok
  · by_cases t1 : (r.1.out.status == STREAM_TUNNEL) = true
    · simp [h1, t1]
    · simp [h1, t1]
  · simp [h1]

theorem resDriverLoop_next (cfg : Cfg) (n : Nat) (c c2 : Conn) (h : resNext cfg c = some c2) :
    resDriverLoop cfg false (n + 1) c = resDriverLoop cfg false n c2 := by
  rw [resNext_eq] at h
  rw [resDriverLoop_data_succ]
  split at h
  · rename_i hh
    cases h
    rw [if_pos (beq_iff_eq.mpr hh.1), if_neg (Bool.eq_false_iff.mp hh.2)]
  · cases h

theorem resDriverLoop_last (cfg : Cfg) (a b : Nat) (c : Conn) (h : resNext cfg c = none) :
    resDriverLoop cfg false (a + 1) c = resDriverLoop cfg false (b + 1) c := by
  rw [resNext_eq] at h
  rw [resDriverLoop_data_succ, resDriverLoop_data_succ]
  split
  · split
    · rfl
    · rename_i h1 h2
      rw [if_pos ⟨eq_of_beq h1, Bool.eq_false_iff.mpr h2⟩] at h
      cases h
  · rfl

/-- the loop has used up its fuel: `n` passes in a row went on -/
def OutOfFuelO (cfg : Cfg) : Nat → Conn → Prop
  | 0, _ => True
  | n + 1, c => ∃ c2, resNext cfg c = some c2 ∧ OutOfFuelO cfg n c2

theorem outOfFuelO_marker (cfg : Cfg) (n : Nat) (c : Conn) (h : OutOfFuelO cfg n c) :
    (resDriverLoop cfg false n c).1.unsupported = true ∧ (resDriverLoop cfg false n c).2 = STREAM_ERROR := by
  induction n generalizing c with
  | zero => unfold resDriverLoop; exact ⟨rfl, rfl⟩
  | succ k ih =>
    obtain ⟨c2, h1, h2⟩ := h
    rw [resDriverLoop_next cfg k c c2 h1]
    exact ih c2 h2

theorem resDriverLoop_more_fuel (cfg : Cfg) (n : Nat) (c : Conn) (h : ¬ OutOfFuelO cfg n c) (k : Nat) :
    resDriverLoop cfg false (n + k) c = resDriverLoop cfg false n c := by
  induction n generalizing c with
  | zero => exact absurd trivial h
  | succ m ih =>
    rw [Nat.add_right_comm]
    cases hn : resNext cfg c with
    | none => exact resDriverLoop_last cfg _ _ c hn
    | some c2 =>
      rw [resDriverLoop_next cfg _ c c2 hn, resDriverLoop_next cfg _ c c2 hn]
      exact ih c2 (fun h2 => h ⟨c2, hn, h2⟩)

/-- `OutOfFuelO` as a Boolean, so that `res_closed_with_data_spins` can evaluate it -/
def outOfFuelOB (cfg : Cfg) : Nat → Conn → Bool
  | 0, _ => true
  | n + 1, c => match resNext cfg c with | some c2 => outOfFuelOB cfg n c2 | none => false

theorem outOfFuelOB_iff (cfg : Cfg) (n : Nat) (c : Conn) : outOfFuelOB cfg n c = true ↔ OutOfFuelO cfg n c := by
  induction n generalizing c with
  | zero => unfold outOfFuelOB OutOfFuelO; simp
  | succ k ih =>
    unfold outOfFuelOB OutOfFuelO
    cases hn : resNext cfg c with
    | none => simp
    | some c2 => simp only [Option.some.injEq, exists_eq_left']; exact ih c2

/-- **RES_LINE on a closed stream with unread data does not end** (a state, not a history: htp_connp_open, then `out_status` set to
    HTP_STREAM_CLOSED by hand, then a response chunk of ONE byte): RES_IDLE starts a transaction, RES_LINE skips the byte copy because
    the stream is closed, completes an EMPTY line, treats it as body, and - the chunk is not used up - stays in RES_LINE with HTP_OK.
    All 72 passes of the model's fuel are spent, the byte is never read, one transaction exists. The state satisfies `HistInv`. -/
theorem res_closed_with_data_spins :
    let c1 : Conn := runCalls {} {} [.open]
    let c : Conn := { c1 with out := { c1.out with status := STREAM_CLOSED } }
    OutOfFuelO {} (8 * 1 + 64) (resStoreChunk (some [65]) 1 c) ∧
    (resData {} (some [65]) 1 c).1.unsupported = true ∧ (resData {} (some [65]) 1 c).2 = STREAM_ERROR ∧
    (resData {} (some [65]) 1 c).1.outState = .line ∧ (resData {} (some [65]) 1 c).1.out.read = 0 ∧
    (resData {} (some [65]) 1 c).1.txs.length = 1 ∧ HistInv {} c := by
  intro c1 c
  -- the call is evaluated once for the five facts about what it returns
  have hd : (fun r : Conn × Nat => r.1.unsupported = true ∧ r.2 = STREAM_ERROR ∧ r.1.outState = .line ∧ r.1.out.read = 0 ∧
      r.1.txs.length = 1) (resData {} (some [65]) 1 c) := by decide +kernel
  have h := histInv_open {} {} (histInv_fresh {})
  exact ⟨(outOfFuelOB_iff _ _ _).mp (by decide +kernel), hd.1, hd.2.1, hd.2.2.1, hd.2.2.2.1, hd.2.2.2.2,
    h.1, h.2.1, h.2.2.1, h.2.2.2.1, h.2.2.2.2⟩

/-- **RES_IDLE answering HTP_OK moved on** (its answer is the answer of htp_tx_state_response_start, as REQ_IDLE's is that of
    htp_tx_state_request_start), and a byte is available -/
theorem idleO_resIdle (cfg : Cfg) (c : Conn) :
    OkP (fun c' => c.out.read < c.out.len ∧ (c'.outState = .line ∨ c'.outState = .bodyIdentityStreamClose)) (resIdle cfg c) :=
  (saysOut_resIdle cfg c).1

/-- **RES_BODY_IDENTITY_STREAM_CLOSE answers HTP_OK only on a closed stream** (then the parser is in RES_FINALIZE): on an open stream it
    takes everything that is there and answers HTP_DATA - no pass follows the un-read of RES_BODY_CHUNKED_LENGTH -/
theorem resStreamClose_ok_closed (cfg : Cfg) (c : Conn) :
    OkP (fun c' => c'.outState = .finalize ∧ c'.out.status = STREAM_CLOSED) (resBodyIdentityStreamClose cfg c) :=
  (saysOut_resBodyIdentityStreamClose cfg c).1

theorem advO_resChunkedDataEndLoop (fuel : Nat) (c : Conn) :
    OkP (fun c' => Adv c.out c'.out ∧ c'.outState = .bodyChunkedLength) (resChunkedDataEndLoop fuel c) :=
  (saysOut_resChunkedDataEndLoop fuel c).1

theorem advO_resBodyChunkedData (cfg : Cfg) (c : Conn) (hrl : c.out.read ≤ c.out.len)
    (ho : 0 < c.out.chunkedLength) :
    OkP (fun c' => Adv c.out c'.out ∧ c'.outState = .bodyChunkedDataEnd) (resBodyChunkedData cfg c) := fun hok =>
  have h := (took_resBodyChunkedData cfg c).ok hok
  ⟨⟨h.2.1, h.2.2 hrl ho⟩, h.1⟩

theorem advO_resBodyIdentityClKnown (cfg : Cfg) (c : Conn) (hrl : c.out.read ≤ c.out.len) (ho : 0 < c.out.bodyDataLeft)
    (hnc : (c.out.status == STREAM_CLOSED) = false) :
    OkP (fun c' => Adv c.out c'.out ∧ c'.outState = .finalize) (resBodyIdentityClKnown cfg c) := fun hok =>
  have h := (took_resBodyIdentityClKnown cfg c hnc).ok hok
  ⟨⟨h.2.1, h.2.2 hrl ho⟩, h.1⟩

/-- **RES_BODY_DETERMINE answering HTP_OK**: cursors and line buffer untouched, and the parser left RES_BODY_DETERMINE - to RES_FINALIZE,
    a body state, or (after an interim 100) back to RES_LINE -/
theorem fwdO_resBodyDetermine (cfg : Cfg) (c : Conn) :
    OkP (fun c' => KeepO c c' ∧ AfterDetermine c'.outState) (resBodyDetermine cfg c) := fun hok =>
  ⟨keepO_resBodyDetermine cfg c, (says_resBodyDetermine cfg c).1 hok⟩

end Htp.Conn
