/- The ring buffer of htp_list.c refines a plain list (pattern P3). Per operation `op`: `op_wf` (it keeps `WF`) and `abs_op` (create, grow,
   pushCore, push, clear: an equation on `abs`) or `op_spec` (pop, shift, replace, which return a pair: `abs` of the new ring and the
   value returned, as `dropLast` / `getLast?`, `tail` / `head?`, `set`); `get_eq : get r i = (abs r)[i]?` needs no `WF`. A new fact is
   proved by rewriting with these and finishing on `List`. Every statement needs `[Inhabited α]` in scope. -/
import HtpModel.Prim.Ring

namespace Htp.Ring

set_option linter.unusedSectionVars false
set_option linter.unusedVariables false
variable {α : Type} [Inhabited α]

/-! The index arithmetic of htp_list.c never goes more than one lap past the end of the array, so every
    `if … then … else … - max_size` in it is `wrap`; the lemmas below are all the arithmetic the ring proofs need. -/

/-- an index less than one lap past the end, brought back into the array -/
def wrap (m x : Nat) : Nat := if x < m then x else x - m

theorem wrap_lt {m x : Nat} (h : x < 2 * m) : wrap m x < m := by
  unfold wrap; split <;> omega

theorem wrap_of_lt {m x : Nat} (h : x < m) : wrap m x = x := if_pos h

theorem wrap_add {m a b : Nat} (h : a + b < 2 * m) : wrap m (wrap m a + b) = wrap m (a + b) := by
  unfold wrap
  repeat' split
  all_goals omega

theorem wrap_inj {m f a b : Nat} (ha : f ≤ a ∧ a < f + m) (hb : f ≤ b ∧ b < f + m) (h : wrap m a = wrap m b) : a = b := by
  unfold wrap at h; split at h <;> split at h <;> omega

-- the three spellings of the wrap-around in the C code

theorem succ_eq_wrap {m x : Nat} (h : x < m) : (if x + 1 = m then 0 else x + 1) = wrap m (x + 1) := by
  unfold wrap; split <;> split <;> omega

theorem gt_eq_wrap {m x : Nat} (hm : 0 < m) : (if x > m - 1 then x - m else x) = wrap m x := by
  unfold wrap; split <;> split <;> omega

theorem mod_eq_wrap {m x : Nat} (h : x < 2 * m) : x % m = wrap m x := by
  unfold wrap
  split
  · exact Nat.mod_eq_of_lt (by assumption)
  · rw [Nat.mod_eq_sub_mod (by omega), Nat.mod_eq_of_lt (by omega)]

@[simp] theorem abs_length (r : Ring α) : (abs r).length = r.curSize := by
  simp [abs]

theorem abs_getElem? (r : Ring α) (i : Nat) (h : i < r.curSize) :
    (abs r)[i]? = some (r.elems.getD (slot r i) default) := by
  simp [abs, h]

theorem eq_abs (r : Ring α) (l : List α) (hl : l.length = r.curSize)
    (h : ∀ i, i < r.curSize → l[i]? = some (r.elems.getD (slot r i) default)) : l = abs r := by
  apply List.ext_getElem?
  intro i
  by_cases hi : i < r.curSize
  · rw [h i hi, abs_getElem? r i hi]
  · rw [List.getElem?_eq_none (by omega), List.getElem?_eq_none (by simp; omega)]

theorem create_wf (n : Nat) (h : 0 < n) : WF (create n : Ring α) := by
  constructor <;> simp [create, h]

@[simp] theorem abs_create (n : Nat) : abs (create n : Ring α) = [] := by
  simp [abs, create]

theorem slot_eq (r : Ring α) (w : WF r) (i : Nat) : slot r i = wrap r.maxSize (r.first + i) := by
  have := w.first_lt
  unfold slot wrap; split <;> omega

theorem WF.last_wrap {r : Ring α} (w : WF r) : r.last = wrap r.maxSize (r.first + r.curSize) := w.last_eq

theorem slot_lt (r : Ring α) (w : WF r) (i : Nat) (h : i < r.curSize) : slot r i < r.maxSize := by
  have := w.first_lt; have := w.cur_le
  rw [slot_eq r w]; exact wrap_lt (by omega)

theorem slot_inj (r : Ring α) (w : WF r) (i j : Nat) (hi : i < r.maxSize) (hj : j < r.maxSize)
    (h : slot r i = slot r j) : i = j := by
  rw [slot_eq r w, slot_eq r w] at h
  have := wrap_inj (f := r.first) (by omega) (by omega) h
  omega

theorem get_eq (r : Ring α) (i : Nat) : get r i = (abs r)[i]? := by
  unfold get
  by_cases h : i ≥ r.curSize
  · simp [h]
  · simp only [h, if_false]
    rw [abs_getElem? r i (by omega)]

theorem grow_wf (r : Ring α) (w : WF r) (hfull : r.curSize = r.maxSize) : WF (grow r) := by
  have := w.pos; have hl := w.len; have := w.first_lt
  constructor
  · simp [grow]; omega
  · simp only [grow]
    split
    · simp [hl]; omega
    · simp [hl]; omega
  · simp [grow]; omega
  · simp [grow]; omega
  · simp [grow]; omega

theorem abs_grow (r : Ring α) (w : WF r) (hfull : r.curSize = r.maxSize) : abs (grow r) = abs r := by
  have hp := w.pos; have hl := w.len; have hf := w.first_lt
  refine (eq_abs (grow r) (abs r) (abs_length r) fun i hi => ?_).symm
  have hi' : i < r.maxSize := hfull ▸ hi
  have h2 : i < r.maxSize * 2 := by omega
  rw [abs_getElem? r i (hfull ▸ hi')]
  simp only [grow, slot, Nat.zero_add, h2, if_true, List.getD_eq_getElem?_getD]
  by_cases h0 : r.first = 0
  · simp only [h0, if_true, Nat.zero_add, hi', List.getElem?_append_left (hl ▸ hi')]
  · simp only [h0, if_false]
    rw [List.getElem?_append_left (by simp [hl]; omega)]
    by_cases hlt : r.first + i < r.maxSize
    · simp only [hlt, if_true]
      rw [List.getElem?_append_left (by simp [hl]; omega), List.getElem?_drop]
    · simp only [hlt, if_false]
      rw [List.getElem?_append_right (by simp [hl]; omega)]
      simp only [List.length_drop, hl]
      rw [List.getElem?_take_of_lt (by omega)]

theorem pushCore_wf (r : Ring α) (w : WF r) (hlt : r.curSize < r.maxSize) (e : α) : WF (pushCore r e) := by
  have := w.first_lt
  have hl : r.last < r.maxSize := by rw [w.last_wrap]; exact wrap_lt (by omega)
  refine ⟨w.pos, by simp [pushCore, w.len], w.first_lt, hlt, ?_⟩
  show (if r.last + 1 = r.maxSize then 0 else r.last + 1) = wrap r.maxSize (r.first + (r.curSize + 1))
  rw [succ_eq_wrap hl, w.last_wrap, wrap_add (by omega), Nat.add_assoc]

theorem push_wf (r : Ring α) (w : WF r) (e : α) : WF (push r e) := by
  unfold push
  by_cases hfull : r.curSize ≥ r.maxSize
  · have hc : r.curSize = r.maxSize := by have := w.cur_le; omega
    have wg := grow_wf r w hc
    simp only [hfull, if_true]
    exact pushCore_wf _ wg (by have := w.pos; simp [grow]; omega) e
  · simp only [hfull, if_false]
    exact pushCore_wf _ w (by omega) e

theorem abs_pushCore (r : Ring α) (w : WF r) (hlt : r.curSize < r.maxSize) (e : α) :
    abs (pushCore r e) = abs r ++ [e] := by
  have hf := w.first_lt
  refine (eq_abs (pushCore r e) _ (by simp [pushCore]) fun i hi => ?_).symm
  have hi' : i ≤ r.curSize := Nat.le_of_lt_succ hi
  show _ = some ((r.elems.set r.last e).getD (slot r i) default)
  rw [List.getD_eq_getElem?_getD, slot_eq r w, w.last_wrap]
  by_cases hi : i < r.curSize
  · have hne : wrap r.maxSize (r.first + r.curSize) ≠ wrap r.maxSize (r.first + i) := fun h => by
      have := wrap_inj (f := r.first) (by omega) (by omega) h
      omega
    rw [List.getElem?_append_left (by simpa using hi), abs_getElem? r i hi, List.getElem?_set_ne hne,
      List.getD_eq_getElem?_getD, slot_eq r w]
  · have hi2 : i = r.curSize := by omega
    rw [List.getElem?_append_right (by simp; omega), hi2,
      List.getElem?_set_self (by rw [w.len]; exact wrap_lt (by omega))]
    simp

theorem abs_push (r : Ring α) (w : WF r) (e : α) : abs (push r e) = abs r ++ [e] := by
  unfold push
  by_cases hfull : r.curSize ≥ r.maxSize
  · have hc : r.curSize = r.maxSize := by have := w.cur_le; omega
    have wg := grow_wf r w hc
    simp only [hfull, if_true]
    have hlt : (grow r).curSize < (grow r).maxSize := by have := w.pos; simp [grow]; omega
    rw [abs_pushCore (grow r) wg hlt e, abs_grow r w hc]
  · simp only [hfull, if_false]
    exact abs_pushCore r w (by omega) e

theorem pop_wf (r : Ring α) (w : WF r) : WF (pop r).1 := by
  unfold pop
  by_cases h0 : r.curSize = 0
  · simp [h0, w]
  · simp only [h0, if_false]
    have := w.cur_le
    refine ⟨w.pos, w.len, w.first_lt, by show r.curSize - 1 ≤ r.maxSize; omega, ?_⟩
    show (if r.first + r.curSize - 1 > r.maxSize - 1 then _ else _) = wrap r.maxSize (r.first + (r.curSize - 1))
    rw [gt_eq_wrap w.pos, show r.first + r.curSize - 1 = r.first + (r.curSize - 1) by omega]

theorem pop_spec (r : Ring α) (w : WF r) :
    abs (pop r).1 = (abs r).dropLast ∧ (pop r).2 = (abs r).getLast? := by
  unfold pop
  by_cases h0 : r.curSize = 0
  · have : abs r = [] := by apply List.eq_nil_of_length_eq_zero; simp [h0]
    simp [h0, this]
  · simp only [h0, if_false]
    constructor
    · refine (eq_abs _ _ (by simp) fun i hi => ?_).symm
      have hi : i < r.curSize - 1 := hi
      rw [List.getElem?_dropLast, abs_length, if_pos hi, abs_getElem? r i (by omega)]
      rfl
    · rw [List.getLast?_eq_getElem?, abs_length, abs_getElem? r _ (by omega), slot_eq r w, gt_eq_wrap w.pos,
        show r.first + r.curSize - 1 = r.first + (r.curSize - 1) by omega]

theorem shift_wf (r : Ring α) (w : WF r) : WF (shift r).1 := by
  unfold shift
  by_cases h0 : r.curSize = 0
  · simp [h0, w]
  · simp only [h0, if_false]
    have := w.first_lt; have := w.cur_le
    rw [succ_eq_wrap w.first_lt]
    refine ⟨w.pos, w.len, wrap_lt (by omega), by show r.curSize - 1 ≤ r.maxSize; omega, ?_⟩
    show r.last = wrap r.maxSize (wrap r.maxSize (r.first + 1) + (r.curSize - 1))
    rw [wrap_add (by omega), w.last_wrap, show r.first + 1 + (r.curSize - 1) = r.first + r.curSize by omega]

theorem shift_spec (r : Ring α) (w : WF r) :
    abs (shift r).1 = (abs r).tail ∧ (shift r).2 = (abs r).head? := by
  have ws := shift_wf r w
  unfold shift at ws ⊢
  by_cases h0 : r.curSize = 0
  · have : abs r = [] := by apply List.eq_nil_of_length_eq_zero; simp [h0]
    simp [h0, this]
  · simp only [h0, if_false] at ws ⊢
    have := w.first_lt; have := w.cur_le
    constructor
    · refine (eq_abs _ _ (by simp) fun i hi => ?_).symm
      have hi : i < r.curSize - 1 := hi
      rw [List.getElem?_tail, abs_getElem? r (i + 1) (by omega), slot_eq _ ws, slot_eq r w]
      show _ = some (r.elems.getD (wrap r.maxSize ((if r.first + 1 = r.maxSize then 0 else r.first + 1) + i)) default)
      rw [succ_eq_wrap w.first_lt, wrap_add (by omega), Nat.add_right_comm, Nat.add_assoc]
    · rw [List.head?_eq_getElem?, abs_getElem? r 0 (by omega), slot_eq r w, wrap_of_lt (by omega), Nat.add_zero]

theorem replace_wf (r : Ring α) (w : WF r) (i : Nat) (e : α) : WF (replace r i e).1 := by
  unfold replace
  split
  · exact w
  · constructor
    · exact w.pos
    · simp [w.len]
    · exact w.first_lt
    · exact w.cur_le
    · exact w.last_eq

theorem replace_spec (r : Ring α) (w : WF r) (idx : Nat) (e : α) :
    (replace r idx e).2 = decide (idx < r.curSize) ∧
    abs (replace r idx e).1 = if idx < r.curSize then (abs r).set idx e else abs r := by
  unfold replace
  by_cases h : idx + 1 > r.curSize
  · have : ¬ idx < r.curSize := by omega
    simp [h, this]
  · have hlt : idx < r.curSize := by omega
    simp only [h, if_false, hlt, decide_true, true_and, if_true]
    have hf := w.first_lt; have hc := w.cur_le
    rw [mod_eq_wrap (by omega), ← slot_eq r w]
    refine (eq_abs _ _ (by simp) fun i hi => ?_).symm
    have hi : i < r.curSize := hi
    show _ = some ((r.elems.set (slot r idx) e).getD (slot r i) default)
    rw [List.getD_eq_getElem?_getD]
    by_cases hii : idx = i
    · subst hii
      rw [List.getElem?_set_self (by simpa using hi), List.getElem?_set_self (by rw [w.len]; exact slot_lt r w idx hi)]
      rfl
    · have hs : slot r idx ≠ slot r i := fun hs => hii (slot_inj r w idx i (by omega) (by omega) hs)
      rw [List.getElem?_set_ne hii, List.getElem?_set_ne hs, abs_getElem? r i hi, List.getD_eq_getElem?_getD]

theorem clear_wf (r : Ring α) (w : WF r) : WF (clear r) := by
  constructor
  · exact w.pos
  · exact w.len
  · exact w.pos
  · simp [clear]
  · simp [clear, w.pos]

@[simp] theorem abs_clear (r : Ring α) : abs (clear r) = [] := by simp [abs, clear]

end Htp.Ring
