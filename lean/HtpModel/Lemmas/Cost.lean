/- Cost lemmas for the table lookup (C08): the number of key comparisons of htp_table_get as a function of the abstract slot
   sequence, and the cost of inserting a block of field names. -/
import HtpModel.Lemmas.TableSim
namespace Htp.Table
open Htp Htp.Ring

/-- the cost of the lookup loop on the sequence of slots it walks (key, value, key, value, ...) -/
def slotsCost (m : Bytes → Bool) : List Slot → Nat
  | [] => 0
  | [s] => (match s with | .key k => if m k then 1 else 1 | _ => 1)
  | s :: _ :: rest => (match s with | .key k => if m k then 1 else 1 + slotsCost m rest | _ => 1 + slotsCost m rest)

theorem getLoopCost_abs (m : Bytes → Bool) (t : Table) (fuel i : Nat) (hf : (Ring.abs t.list).length ≤ i + 2 * fuel) :
    getLoopCost m t fuel i = slotsCost m ((Ring.abs t.list).drop i) := by
  induction fuel generalizing i with
  | zero => rw [List.drop_of_length_le (by omega)]; rfl
  | succ k ih =>
    have ihh := ih (i + 2) (by omega)
    obtain ⟨hs, hk, -⟩ := loop_view t i
    rw [← List.drop_drop] at ihh
    simp only [getLoopCost, hs, hk, ihh]
    match (Ring.abs t.list).drop i with
    | [] => rfl
    | [s] => cases s <;> simp [slotsCost]
    | s :: v :: rest => cases s <;> simp [slotsCost]

/-- the slot sequence of a table that holds the given names (each with some value) -/
def slotsOf : List Bytes → List Slot
  | [] => []
  | n :: ns => .key n :: .val 0 :: slotsOf ns

theorem slotsCost_nomatch (m : Bytes → Bool) (ns : List Bytes) (h : ∀ n ∈ ns, m n = false) : slotsCost m (slotsOf ns) = ns.length := by
  induction ns with
  | nil => rfl
  | cons n rest ih =>
    simp only [slotsOf, slotsCost, h n (by simp), Bool.false_eq_true, if_false, List.length_cons]
    rw [ih (fun x hx => h x (by simp [hx]))]; omega

theorem slotsCost_head (m : Bytes → Bool) (n : Bytes) (ns : List Bytes) (h : m n = true) : slotsCost m (slotsOf (n :: ns)) = 1 := by
  simp [slotsOf, slotsCost, h]

theorem slotsOf_eq (ns : List Bytes) : slotsOf ns = slotsOfPairs (ns.map (·, 0)) := by
  induction ns with
  | nil => rfl
  | cons n rest ih => simp [slotsOf, slotsOfPairs, ih]

theorem assocFind_nomatch (m : Bytes → Bool) (ns : List Bytes) (h : ∀ n ∈ ns, m n = false) : assocFind m (ns.map (·, 0)) = none := by
  induction ns with
  | nil => rfl
  | cons n rest ih =>
    simp only [List.map_cons, assocFind, h n (by simp), Bool.false_eq_true, if_false]
    exact ih (fun x hx => h x (by simp [hx]))

/-- what the header-processing code does with its table for one field name: look the name up, add it when it is new
    (htp_process_request_header_generic: htp_table_get, then htp_table_add) -/
def insertName (t : Table) (n : Bytes) : Table × Nat :=
  let c := getCost t n
  match get t n with
  | some _ => (t, c)
  | none => ((add t n 0).1, c)

/-- a header block: names inserted in order; returns the table and the total number of key comparisons -/
def insertNames (t : Table) : List Bytes → Table × Nat
  | [] => (t, 0)
  | n :: ns =>
    let r1 := insertName t n
    let r2 := insertNames r1.1 ns
    (r2.1, r1.2 + r2.2)

/-- d + (d+1) + ... + (d+k-1) -/
def sumFrom : Nat → Nat → Nat
  | _, 0 => 0
  | d, k + 1 => d + sumFrom (d + 1) k

theorem sumFrom_closed (d k : Nat) : 2 * sumFrom d k + k = 2 * (d * k) + k * k := by
  induction k generalizing d with
  | zero => simp [sumFrom]
  | succ k ih =>
    have h := ih (d + 1)
    simp only [sumFrom, Nat.mul_add, Nat.add_mul, Nat.mul_one, Nat.one_mul] at h ⊢
    generalize d * k = a at h ⊢
    generalize k * k = b at h ⊢
    generalize sumFrom (d + 1) k = s at h ⊢
    omega

theorem insertName_new (t : Table) (done : List Bytes) (n : Bytes) (hi : PInv t (done.map (·, 0)))
    (hn : ∀ x ∈ done, (Bstr.cmpMemNocase x n == 0) = false) :
    (insertName t n).2 = done.length ∧ PInv (insertName t n).1 ((done ++ [n]).map (·, 0)) := by
  have hc : getCost t n = done.length := by
    rw [getCost, getLoopCost_abs _ t _ 0 (by simp [Ring.size]; omega), List.drop_zero, hi.abs, ← slotsOf_eq]
    exact slotsCost_nomatch _ done hn
  have hg : get t n = none := by rw [get, getLoop_pinv _ t _ hi]; exact assocFind_nomatch _ done hn
  simp only [insertName, hc, hg, List.map_append]
  exact ⟨trivial, (add_pinv t _ n 0 hi).1⟩

theorem insertNames_distinct (ns : List Bytes) (t : Table) (done : List Bytes) (hi : PInv t (done.map (·, 0)))
    (hd : ∀ x ∈ done, ∀ n ∈ ns, (Bstr.cmpMemNocase x n == 0) = false)
    (hp : ns.Pairwise (fun a b => (Bstr.cmpMemNocase a b == 0) = false)) :
    (insertNames t ns).2 = sumFrom done.length ns.length := by
  induction ns generalizing t done with
  | nil => rfl
  | cons n rest ih =>
    unfold insertNames
    simp only
    have h1 := insertName_new t done n hi (fun x hx => hd x hx n (by simp))
    rw [List.pairwise_cons] at hp
    have h2 := ih (insertName t n).1 (done ++ [n]) h1.2
      (by
        intro x hx m hm
        rcases List.mem_append.mp hx with h | h
        · exact hd x h m (by simp [hm])
        · simp at h; subst h; exact hp.1 m hm)
      hp.2
    rw [h1.1, h2]
    simp [sumFrom]

end Htp.Table
