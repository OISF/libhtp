/- C06 "with correct accounting" over whole runs: the four accounted lengths of a stored transaction never decrease. The relation
   between two states has the shape of the one for the indicator bits (Lemmas/FlagsMonoHist.lean: same `Hyg`, same shape of `Step`/`Rel`,
   in namespace `Htp.Conn.Lens`) with the per-transaction clause "flag word contained" replaced by the four `≤` (`Lens.LenLe`,
   Lemmas/TxCont.lean). Over call histories `LensLe` (stated on lookups by uid) is the length clause of `TxCont` (`history_txCont`,
   Lemmas/ConnSweepHist.lean): `history_lens_monotone`. No model function is walked for `Lens.Rel`: it is the weakening of the walk's
   `TxsRel` to the length clause (`Lens.Rel.of_txsRel`); `LensLe` follows from it as well (`lensLe_of_rel`). -/
import HtpModel.Lemmas.ConnSweepHist
namespace Htp.Conn
open Htp Htp.Gen

namespace Lens

structure TxLe (t t' : Tx) : Prop where
  uid : t'.uid = t.uid
  lens : LenLe t t'

theorem TxLe.refl (t : Tx) : TxLe t t := ⟨rfl, LenLe.refl _⟩
theorem TxLe.trans {a b c : Tx} (h1 : TxLe a b) (h2 : TxLe b c) : TxLe a c := ⟨h2.uid.trans h1.uid, h1.lens.trans h2.lens⟩

structure Step (c c' : Conn) : Prop where
  hyg : Hyg c'
  next : c.nextUid ≤ c'.nextUid
  mem : ∀ t', some t' ∈ c'.txs → (∃ t, some t ∈ c.txs ∧ TxLe t t') ∨ c.nextUid ≤ t'.uid

structure Rel (c c' : Conn) : Prop where
  step : Hyg c → Step c c'

theorem Rel.refl (c : Conn) : Rel c c := ⟨fun h => ⟨h, Nat.le_refl _, fun t ht => .inl ⟨t, ht, TxLe.refl t⟩⟩⟩

theorem Rel.trans {a b c : Conn} (h1 : Rel a b) (h2 : Rel b c) : Rel a c := by
  refine ⟨fun ha => ?_⟩
  have s1 := h1.step ha
  have s2 := h2.step s1.hyg
  refine ⟨s2.hyg, Nat.le_trans s1.next s2.next, fun t'' ht'' => ?_⟩
  rcases s2.mem t'' ht'' with ⟨t', ht', l2⟩ | hn
  · rcases s1.mem t' ht' with ⟨t, ht, l1⟩ | hn
    · exact .inl ⟨t, ht, l1.trans l2⟩
    · exact .inr (by rw [l2.uid]; exact hn)
  · exact .inr (Nat.le_trans s1.next hn)

theorem Rel.of_txsRel {c c' : Conn} (h : TxsRel c c') : Rel c c' :=
  ⟨fun hy => ⟨h.hyg hy, h.next, fun t' ht' => (h.mem t' ht').imp (fun ⟨t, ht, l⟩ => ⟨t, ht, l.uid, l.lens⟩) (·.1)⟩⟩

end Lens

def LensLe (c c' : Conn) : Prop :=
  ∀ u t t', c.findTx u = some t → c'.findTx u = some t' →
    t.reqMessageLen ≤ t'.reqMessageLen ∧ t.reqEntityLen ≤ t'.reqEntityLen ∧
    t.resMessageLen ≤ t'.resMessageLen ∧ t.resEntityLen ≤ t'.resEntityLen

theorem LensLe.refl (c : Conn) : LensLe c c := by
  intro u t t' h1 h2
  rw [h1] at h2
  rw [← Option.some.inj h2]
  exact Lens.LenLe.refl t

theorem LensLe.trans_present {a b c : Conn} (h1 : LensLe a b) (h2 : LensLe b c)
    (hmid : ∀ u, (a.findTx u).isSome → (c.findTx u).isSome → (b.findTx u).isSome) : LensLe a c := by
  intro u t t'' ha hc
  have hb := hmid u (by rw [ha]; rfl) (by rw [hc]; rfl)
  cases hf : b.findTx u with
  | none => rw [hf] at hb; exact absurd hb (by decide)
  | some t' => exact Lens.LenLe.trans (h1 u t t' ha hf) (h2 u t' t'' hf hc)

theorem lensLe_of_rel {c c' : Conn} (h : Lens.Rel c c') (hy : Hyg c) : LensLe c c' :=
  fun _ _ _ h1 h2 => (find_of_mem Lens.TxLe.uid hy (h.step hy).mem h1 h2).lens

theorem lensLe_trans {a b c : Conn} (ha : Hyg a) (h1 : Lens.Rel a b) (h2 : Lens.Rel b c) : LensLe a c := lensLe_of_rel (h1.trans h2) ha

/-- **C06 over whole histories: the accounted lengths of a transaction never decrease.** Whatever calls were made (`pre`) and whatever
    calls follow, a transaction that still exists has request/response message and entity lengths at least what they were - for any
    stream, chunking, interleaving of request and response data, close calls and callback policy (`c0.policy` is arbitrary) -/
theorem history_lens_monotone (cfg : Cfg) (c0 : Conn) (h0 : Hyg c0) (calls pre : List Call) (hp : pre <+: calls) :
    LensLe (runCalls cfg c0 pre) (runCalls cfg c0 calls) :=
  fun _ _ _ h1 h2 => (history_txCont cfg c0 h0 calls pre hp h1 h2).lens

theorem history_lens_monotone_fresh (cfg : Cfg) (calls pre : List Call) (hp : pre <+: calls) :
    LensLe (runCalls cfg {} pre) (runCalls cfg {} calls) :=
  history_lens_monotone cfg {} hyg_init calls pre hp

theorem history_lens_monotone_policy (cfg : Cfg) (policy : List (Nat × CbAction)) (calls pre : List Call) (hp : pre <+: calls) :
    LensLe (runCalls cfg { policy := policy } pre) (runCalls cfg { policy := policy } calls) :=
  history_lens_monotone cfg _ (hyg_of_empty rfl) calls pre hp

theorem history_reqEntityLen_mono (cfg : Cfg) (c0 : Conn) (h0 : Hyg c0) (calls pre : List Call) (hp : pre <+: calls) {u : Nat} {t t' : Tx}
    (h1 : (runCalls cfg c0 pre).findTx u = some t) (h2 : (runCalls cfg c0 calls).findTx u = some t') :
    t.reqEntityLen ≤ t'.reqEntityLen :=
  (history_lens_monotone cfg c0 h0 calls pre hp u t t' h1 h2).2.1

/-- a fresh connection parser, a POST with a 5-byte body: the four lengths of transaction 0 after each call. `reqEntityLen` is 5 after
    the body and still 5 after the response and after htp_connp_close; the response lengths grow when the response arrives. -/
example :
    let calls : List Call := [.open,
      .req (b!"POST /upload HTTP/1.1\r\nHost: example.com\r\nContent-Length: 5\r\n\r\n"),
      .req (b!"hello"),
      .res (b!"HTTP/1.1 200 OK\r\nContent-Length: 2\r\n\r\nok"),
      .close]
    let lens (n : Nat) : Option (Nat × Nat × Nat × Nat) :=
      ((runCalls {} {} (calls.take n)).findTx 0).map (fun t => (t.reqMessageLen, t.reqEntityLen, t.resMessageLen, t.resEntityLen))
    lens 1 = none ∧ (lens 2).map (·.2.1) = some 0 ∧ (lens 3).map (·.2.1) = some 5 ∧ (lens 4).map (·.2.1) = some 5 ∧
    (lens 5).map (·.2.1) = some 5 ∧ (lens 5).map (·.2.2.2) = some 2 ∧
    ((runCalls {} {} calls).findTx 0).map (fun t => (t.reqProgress, t.resProgress)) = some (5, 5) := by decide +kernel

end Htp.Conn
