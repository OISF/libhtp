/- htp_normalize_uri_path_inplace (the in-place dot-segment remover, RFC 3986 5.2.4 as libhtp does it) as translated in
   HtpModel/Gen/CFuns.lean = the functional model `Htp.Decode.normalizePath` for all inputs below 2^63 bytes.

   Representation invariant of the main loop (`Rep` + `Inv`): the write cursor never overtakes the read cursor
   (`wpos + pending ≤ rpos ≤ len`), so the unread part `mem.drop rpos` is still the suffix of the ORIGINAL input (= the model's `rest`),
   and `mem.take wpos` is the model's reversed output; `c = -1` iff the model has no pending character.
   Progress measure: `2 * rest.length + pending` strictly decreases on every turn of the main loop (C and model alike). -/
import HtpModel.Lemmas.CFunsBase
import HtpModel.Lemmas.Normalize
namespace Htp.CFuns.Norm
open Htp Htp.CSem Htp.Gen.C Htp.Gen Htp.Decode
set_option linter.unusedSimpArgs false
set_option linter.unusedVariables false

abbrev St := St_htp_normalize_uri_path_inplace

abbrev NS (sl : Int) (L r w : Nat) (c : Int) (mem : List Int) : St :=
  { s__len := sl, len := L, rpos := r, wpos := w, c := c, s__mem := mem }

theorem seqS_cont {σ : Type} {a b : Stmt σ} {s s1 : σ} (h : a s = some (.cont s1)) : seqS a b s = some (.cont s1) := by
  unfold seqS; rw [h]

theorem whileF_nc {σ : Type} {c : σ → Option Bool} {body : Stmt σ} {s s1 : σ} (n : Nat) (hc : c s = some true)
    (hb : body s = some (.next s1) ∨ body s = some (.cont s1)) :
    whileF c body skipS (n + 1) s = whileF c body skipS n s1 := by
  rcases hb with hb | hb
  · exact whileF_next n hc hb rfl
  · exact whileF_cont n hc hb rfl

theorem byte_ne_neg1 (a : UInt8) : ¬ ((a.toNat : Int) = -1) := by omega

theorem memOf_cons (x : UInt8) (t : Bytes) : memOf (x :: t) = (x.toNat : Int) :: memOf t := rfl

/-- the representation: `mem` has the length of the buffer, the unread part is the model's `rest`, the written part its reversed output -/
structure Rep (L : Nat) (mem : List Int) (r w : Nat) (rest out : Bytes) : Prop where
  hlen : mem.length = L
  hr : r ≤ L
  hdrop : mem.drop r = memOf rest
  htake : mem.take w = memOf out.reverse

theorem Rep.rest_len {L : Nat} {mem : List Int} {r w : Nat} {rest out : Bytes} (h : Rep L mem r w rest out) : r + rest.length = L := by
  have := congrArg List.length h.hdrop
  rw [List.length_drop, memOf_length, h.hlen] at this
  have := h.hr
  omega

theorem Rep.out_len {L : Nat} {mem : List Int} {r w : Nat} {rest out : Bytes} (h : Rep L mem r w rest out) (hw : w ≤ L) : out.length = w := by
  have := congrArg List.length h.htake
  rw [List.length_take, memOf_length, h.hlen, List.length_reverse] at this
  omega

theorem Rep.skip {L : Nat} {mem : List Int} {r w : Nat} {rest out : Bytes} (h : Rep L mem r w rest out) (k : Nat) (hk : k ≤ rest.length) :
    Rep L mem (r + k) w (rest.drop k) out := by
  have hl := h.rest_len
  refine ⟨h.hlen, by omega, ?_, h.htake⟩
  have : mem.drop (r + k) = (mem.drop r).drop k := by rw [List.drop_drop]
  rw [this, h.hdrop]; simp [memOf, List.map_drop]

theorem Rep.write {L : Nat} {mem : List Int} {r w : Nat} {rest out : Bytes} (h : Rep L mem r w rest out) (hw : w < r) (x : UInt8) :
    Rep L (mem.set w (x.toNat : Int)) r (w + 1) rest (x :: out) := by
  have hr := h.hr
  refine ⟨by rw [List.length_set]; exact h.hlen, h.hr, ?_, ?_⟩
  · rw [List.drop_set_of_lt hw]; exact h.hdrop
  · have hwl : w < (mem.set w (x.toNat : Int)).length := by rw [List.length_set, h.hlen]; omega
    rw [List.take_succ_eq_append_getElem hwl, List.take_set_of_le (Nat.le_refl _), h.htake]
    simp [memOf]

theorem Rep.top {L : Nat} {mem : List Int} {r w : Nat} {rest : Bytes} {x : UInt8} {t : Bytes}
    (h : Rep L mem r (w + 1) rest (x :: t)) (hw : w + 1 ≤ L) :
    mem[w]? = some (x.toNat : Int) ∧ Rep L mem r w rest t := by
  have hwl : w < mem.length := by rw [h.hlen]; omega
  have ht := h.htake
  rw [List.take_succ_eq_append_getElem hwl, List.reverse_cons, memOf_append] at ht
  have hl : [mem[w]].length = (memOf [x]).length := rfl
  obtain ⟨h1, h2⟩ := List.append_inj' ht hl
  refine ⟨?_, h.hlen, h.hr, h.hdrop, h1⟩
  rw [List.getElem?_eq_getElem hwl]
  simp [memOf] at h2
  rw [h2]

section
variable {L : Nat} {mem : List Int} {r w : Nat} {rest out : Bytes}

theorem Rep.rd (h : Rep L mem r w rest out) (k : Nat) :
    rdM mem ((r + k : Nat) : Int) = (rest[k]?).map fun b => (b.toNat : Int) := by
  rw [rdM_nat, ← List.getElem?_drop, h.hdrop]; simp [memOf]
theorem Rep.rd0 (h : Rep L mem r w rest out) : rdM mem (r : Int) = (rest[0]?).map fun b => (b.toNat : Int) := h.rd 0

theorem Rep.lt_iff (h : Rep L mem r w rest out) (k : Nat) : ((r + k : Nat) : Int) < L ↔ k < rest.length := by
  have := h.rest_len; omega
theorem Rep.eq_iff (h : Rep L mem r w rest out) (k : Nat) : ((r + k : Nat) : Int) = L ↔ k = rest.length := by
  have := h.rest_len; omega

end

theorem dec46 (x : UInt8) : decide ((x.toNat : Int) = 46) = (x == 0x2e) := dec_byte x 0x2e
theorem dec47 (x : UInt8) : decide ((x.toNat : Int) = 47) = (x == 0x2f) := dec_byte x 0x2f


theorem u64_nat (k : Nat) (h : k < 18446744073709551616) : u64 (k : Int) = (k : Int) :=
  Htp.CFuns.u64_nat k h

theorem u64_add2 (p : Nat) (h : p + 2 < 18446744073709551616) : u64 ((p : Int) + 2) = ((p + 2 : Nat) : Int) := u64_add p 2 h
theorem u64_add3 (p : Nat) (h : p + 3 < 18446744073709551616) : u64 ((p : Int) + 3) = ((p + 3 : Nat) : Int) := u64_add p 3 h

/-- loop 1 (`while (rpos < len && data[rpos] != '/' && wpos < len) data[wpos++] = data[rpos++]`) is the model's `copySegment`; the
    third condition never decides because the write cursor is not ahead of the read cursor -/
theorem loop1_while (F L : Nat) (hL : L < 9223372036854775808) (sl cI : Int) :
    ∀ (rest out : Bytes) (mem : List Int) (r w n : Nat), Rep L mem r w rest out → w ≤ r → rest.length < n →
      ∃ r' w' mem', whileF (htp_normalize_uri_path_inplace_cond1 F) (htp_normalize_uri_path_inplace_body1 F)
            (htp_normalize_uri_path_inplace_incr1 F) n (NS sl L r w cI mem) = some (.next (NS sl L r' w' cI mem'))
        ∧ Rep L mem' r' w' (copySegment rest out).1 (copySegment rest out).2 ∧ w' ≤ r' := by
  intro rest
  induction rest with
  | nil =>
    intro out mem r w n h hw hn
    obtain ⟨m, rfl⟩ := fuel_succ hn
    have hl := h.rest_len
    have hc : htp_normalize_uri_path_inplace_cond1 F (NS sl L r w cI mem) = some false := by
      have : ¬ ((r : Int) < L) := by simp at hl; omega
      simp [htp_normalize_uri_path_inplace_cond1, andL, this]
    exact ⟨r, w, mem, whileF_exit m hc, by simpa [copySegment] using h, hw⟩
  | cons x t ih =>
    intro out mem r w n h hw hn
    obtain ⟨m, rfl⟩ := fuel_succ hn
    have hl := h.rest_len
    simp only [List.length_cons] at hl hn
    have c1 : ((r : Int) < L) := by omega
    have c3 : ((w : Int) < L) := by omega
    have r0 : rdM mem (r : Int) = some (x.toNat : Int) := by simpa using h.rd0
    have hc : htp_normalize_uri_path_inplace_cond1 F (NS sl L r w cI mem) = some (!(x == 0x2f)) := by
      simp [htp_normalize_uri_path_inplace_cond1, andL_some, andL_true, c1, c3, r0, dec47]
    cases hx : x == 0x2f with
    | true =>
      rw [hx] at hc
      exact ⟨r, w, mem, whileF_exit m hc, by simpa [copySegment, hx] using h, hw⟩
    | false =>
      rw [hx] at hc
      have hwl : w < mem.length := by rw [h.hlen]; omega
      have hb : htp_normalize_uri_path_inplace_body1 F (NS sl L r w cI mem)
          = some (.next (NS sl L (r + 1) (w + 1) cI (mem.set w (x.toNat : Int)))) := by
        simp only [htp_normalize_uri_path_inplace_body1, assignS, r0, Option.bind_some, wrM_nat mem w _ hwl, Option.map_some,
          u64_succ r (by omega), u64_succ w (by omega)]
      rw [whileF_next m hc hb rfl]
      have h1 : Rep L mem (r + 1) w t out := by simpa using h.skip 1 (by simp)
      obtain ⟨r', w', mem', hw', hrep, hle⟩ := ih (x :: out) _ (r + 1) (w + 1) m (h1.write (by omega) x) (by omega) (by omega)
      exact ⟨r', w', mem', hw', by simpa [copySegment, hx] using hrep, hle⟩

/-- loops 2 and 3 (`while (wpos > 0 && data[wpos - 1] != '/') wpos--`) drop the slash-free end of the output -/
theorem loop2_while (F L : Nat) (hL : L < 9223372036854775808) (sl cI : Int) (rest : Bytes) (mem : List Int) (r : Nat) :
    ∀ (out : Bytes) (w n : Nat), Rep L mem r w rest out → w ≤ L → out.length < n →
      ∃ w', whileF (htp_normalize_uri_path_inplace_cond2 F) (htp_normalize_uri_path_inplace_body2 F)
            (htp_normalize_uri_path_inplace_incr2 F) n (NS sl L r w cI mem) = some (.next (NS sl L r w' cI mem))
        ∧ Rep L mem r w' rest (out.dropWhile (· != 0x2f)) ∧ w' ≤ w := by
  intro out
  induction out with
  | nil =>
    intro w n h hw hn
    obtain ⟨m, rfl⟩ := fuel_succ hn
    have hl := h.out_len hw
    simp at hl; subst hl
    have hc : htp_normalize_uri_path_inplace_cond2 F (NS sl L r 0 cI mem) = some false := by
      simp [htp_normalize_uri_path_inplace_cond2, andL]
    exact ⟨0, whileF_exit m hc, by simpa using h, Nat.le_refl _⟩
  | cons x t ih =>
    intro w n h hw hn
    obtain ⟨m, rfl⟩ := fuel_succ hn
    have hl := h.out_len hw
    simp only [List.length_cons] at hl hn
    obtain ⟨w0, rfl⟩ : ∃ w0, w = w0 + 1 := ⟨w - 1, by omega⟩
    obtain ⟨htop, h0⟩ := h.top hw
    have c1 : (((w0 + 1 : Nat) : Int) > 0) := by omega
    have hu : u64 (((w0 + 1 : Nat) : Int) - 1) = (w0 : Int) := by rw [u64_id] <;> omega
    have r0 : rdM mem (w0 : Int) = some (x.toNat : Int) := by rw [rdM_nat]; exact htop
    have hc : htp_normalize_uri_path_inplace_cond2 F (NS sl L r (w0 + 1) cI mem) = some (x != 0x2f) := by
      simp only [htp_normalize_uri_path_inplace_cond2, c1, decide_true, andL_true, hu, r0, Option.bind_some, decide_not, dec47]
      rfl
    cases hx : x != 0x2f with
    | false =>
      rw [hx] at hc
      exact ⟨w0 + 1, whileF_exit m hc, by simpa [List.dropWhile, hx] using h, Nat.le_refl _⟩
    | true =>
      rw [hx] at hc
      have hb : htp_normalize_uri_path_inplace_body2 F (NS sl L r (w0 + 1) cI mem) = some (.next (NS sl L r w0 cI mem)) := by
        simp only [htp_normalize_uri_path_inplace_body2, assignS, hu, Option.map_some]
      rw [whileF_next m hc hb rfl]
      obtain ⟨w', hw', hrep, hle⟩ := ih w0 m h0 (by omega) (by omega)
      exact ⟨w', hw', by simpa [List.dropWhile, hx] using hrep, by omega⟩

/-- loop 2 with the statements after it (`if (wpos > 0) wpos--; continue`): the model's `dropLastSegment` -/
theorem loop2_eq (F L : Nat) (hL : L < 9223372036854775808) (sl cI : Int) (rest out : Bytes) (mem : List Int) (r w : Nat)
    (h : Rep L mem r w rest out) (hw : w ≤ L) (hF : L < F) :
    ∃ w', htp_normalize_uri_path_inplace_loop2 F (NS sl L r w cI mem) = some (.cont (NS sl L r w' cI mem))
      ∧ Rep L mem r w' rest (dropLastSegment out) ∧ w' ≤ w := by
  have hol := h.out_len hw
  obtain ⟨w1, hw1, hrep, hle⟩ := loop2_while F L hL sl cI rest mem r out w F h hw (by omega)
  unfold htp_normalize_uri_path_inplace_loop2
  rw [seqS_next hw1]
  unfold dropLastSegment
  cases hd : out.dropWhile (· != 0x2f) with
  | nil =>
    rw [hd] at hrep
    have := hrep.out_len (by omega)
    simp at this; subst this
    refine ⟨0, ?_, by simpa using hrep, by omega⟩
    simp [htp_normalize_uri_path_inplace_rest2, seqS, iteS, skipS, contS]
  | cons y t =>
    rw [hd] at hrep
    have := hrep.out_len (by omega)
    simp only [List.length_cons] at this
    obtain ⟨w0, rfl⟩ : ∃ w0, w1 = w0 + 1 := ⟨w1 - 1, by omega⟩
    obtain ⟨_, h0⟩ := hrep.top (by omega)
    have c1 : (((w0 + 1 : Nat) : Int) > 0) := by omega
    have hu : u64 (((w0 + 1 : Nat) : Int) - 1) = (w0 : Int) := by rw [u64_id] <;> omega
    refine ⟨w0, ?_, h0, by omega⟩
    simp only [htp_normalize_uri_path_inplace_rest2, seqS, iteS, skipS, contS, assignS, c1, decide_true, hu, Option.map_some]

theorem loop3_eq_loop2 (F : Nat) : htp_normalize_uri_path_inplace_loop3 F = htp_normalize_uri_path_inplace_loop2 F := rfl

/-! the body of the main loop, cut into named pieces (`body4_eq` is `rfl`: the pieces are the translated text) -/

/-- `rpos + 1 < len && data[rpos] == '.' && data[rpos + 1] == '/'` -/
def cDS : St → Option Bool :=
  fun s => (andL ((andL (some (decide ((u64 (s.rpos + 1)) < s.len))) ((rdM s.s__mem s.rpos).bind fun v27 => some (decide (v27 = 46)))).bind fun v28 => some v28) ((rdM s.s__mem (u64 (s.rpos + 1))).bind fun v29 => some (decide (v29 = 47)))).bind fun v30 => some v30
/-- `rpos < len && data[rpos] == '/'` -/
def cS : St → Option Bool :=
  fun s => (andL (some (decide (s.rpos < s.len))) ((rdM s.s__mem s.rpos).bind fun v31 => some (decide (v31 = 47)))).bind fun v32 => some v32
/-- `rpos + 1 == len && data[rpos] == '.'` -/
def cD1 : St → Option Bool :=
  fun s => (andL (some (decide ((u64 (s.rpos + 1)) = s.len))) ((rdM s.s__mem s.rpos).bind fun v25 => some (decide (v25 = 46)))).bind fun v26 => some v26
/-- `rpos + 2 < len && data[rpos] == '.' && data[rpos + 1] == '.' && data[rpos + 2] == '/'` -/
def cDDS : St → Option Bool :=
  fun s => (andL ((andL ((andL (some (decide ((u64 (s.rpos + 2)) < s.len))) ((rdM s.s__mem s.rpos).bind fun v7 => some (decide (v7 = 46)))).bind fun v8 => some v8) ((rdM s.s__mem (u64 (s.rpos + 1))).bind fun v9 => some (decide (v9 = 46)))).bind fun v10 => some v10) ((rdM s.s__mem (u64 (s.rpos + 2))).bind fun v11 => some (decide (v11 = 47)))).bind fun v12 => some v12
/-- `rpos + 2 == len && data[rpos] == '.' && data[rpos + 1] == '.'` -/
def cDD : St → Option Bool :=
  fun s => (andL ((andL (some (decide ((u64 (s.rpos + 2)) = s.len))) ((rdM s.s__mem s.rpos).bind fun v15 => some (decide (v15 = 46)))).bind fun v16 => some v16) ((rdM s.s__mem (u64 (s.rpos + 1))).bind fun v17 => some (decide (v17 = 46)))).bind fun v18 => some v18
/-- `c == '.' && rpos + 1 == len && data[rpos] == '.'` -/
def cE2 : St → Option Bool :=
  fun s => (andL (some ((decide (s.c = 46)) && (decide ((u64 (s.rpos + 1)) = s.len)))) ((rdM s.s__mem s.rpos).bind fun v5 => some (decide (v5 = 46)))).bind fun v6 => some v6

/-- `if (c == -1) c = data[rpos++]` -/
def blkRead : Stmt St :=
  iteS (fun s => some (decide (s.c = (-1))))
    (assignS (fun s => (rdM s.s__mem s.rpos).bind fun v33 => some { s with c := v33, rpos := (u64 (s.rpos + 1)) }))
    (skipS)
/-- rule A: `../` and `./` at the start of a segment -/
def blkA : Stmt St :=
  iteS (fun s => some (decide (s.c = 46)))
    (iteS cDS
    (seqS (assignS (fun s => some { s with c := (-1) }))
    (seqS (assignS (fun s => some { s with rpos := (u64 (s.rpos + 2)) }))
    (contS)))
    (iteS cS
    (seqS (assignS (fun s => some { s with c := (-1) }))
    (seqS (assignS (fun s => some { s with rpos := (u64 (s.rpos + 1)) }))
    (contS)))
    (skipS)))
    (skipS)
/-- rule B: `/./` and a final `/.` -/
def blkB : Stmt St :=
  iteS cDS
    (seqS (assignS (fun s => some { s with c := 47 }))
    (seqS (assignS (fun s => some { s with rpos := (u64 (s.rpos + 2)) }))
    (contS)))
    (iteS cD1
    (seqS (assignS (fun s => some { s with c := 47 }))
    (seqS (assignS (fun s => some { s with rpos := (u64 (s.rpos + 1)) }))
    (contS)))
    (skipS))
/-- rule C: `/../` and a final `/..` -/
def blkC (fuel : Nat) : Stmt St :=
  iteS cDDS
    (seqS (assignS (fun s => some { s with c := 47 }))
    (seqS (assignS (fun s => some { s with rpos := (u64 (s.rpos + 3)) }))
    (htp_normalize_uri_path_inplace_loop2 fuel)))
    (iteS cDD
    (seqS (assignS (fun s => some { s with c := 47 }))
    (seqS (assignS (fun s => some { s with rpos := (u64 (s.rpos + 2)) }))
    (htp_normalize_uri_path_inplace_loop3 fuel)))
    (skipS))
def blkBC (fuel : Nat) : Stmt St :=
  iteS (fun s => some (decide (s.c = 47))) (seqS blkB (blkC fuel)) (skipS)
/-- rule D: a final `.` -/
def blkD1 : Stmt St :=
  iteS (fun s => some ((decide (s.c = 46)) && (decide (s.rpos = s.len))))
    (seqS (assignS (fun s => some { s with rpos := (u64 (s.rpos + 1)) }))
    (contS))
    (skipS)
/-- rule D: a final `..` -/
def blkD2 : Stmt St :=
  iteS cE2
    (seqS (assignS (fun s => some { s with rpos := (u64 (s.rpos + 2)) }))
    (contS))
    (skipS)
/-- rule E: write the pending character, copy the segment -/
def blkE (fuel : Nat) : Stmt St :=
  seqS (assignS (fun s => (wrM s.s__mem s.wpos (u8 s.c)).bind fun m' => some { s with s__mem := m', wpos := (u64 (s.wpos + 1)) }))
    (htp_normalize_uri_path_inplace_loop1 fuel)
def blkTail (fuel : Nat) : Stmt St :=
  seqS blkD1 (seqS blkD2 (blkE fuel))
def blkRules (fuel : Nat) : Stmt St :=
  seqS blkA (seqS (blkBC fuel) (blkTail fuel))

theorem body4_eq (fuel : Nat) : htp_normalize_uri_path_inplace_body4 fuel = seqS blkRead (blkRules fuel) := rfl

/-! the model's rules as the chain of tests the C code makes -/

/-- the unread input starts with `./` -/
def pDS : Bytes → Bool | x :: y :: _ => x == 0x2e && y == 0x2f | _ => false
/-- ... starts with `/` -/
def pS : Bytes → Bool | x :: _ => x == 0x2f | _ => false
/-- ... is `.` -/
def pD1 : Bytes → Bool | [x] => x == 0x2e | _ => false
/-- ... starts with `../` -/
def pDDS : Bytes → Bool | x :: y :: z :: _ => x == 0x2e && y == 0x2e && z == 0x2f | _ => false
/-- ... is `..` -/
def pDD : Bytes → Bool | [x, y] => x == 0x2e && y == 0x2e | _ => false

def ruleE (b : UInt8) (rest out : Bytes) : Bytes × Option (Bytes × Option UInt8) :=
  ((copySegment rest (b :: out)).2, some ((copySegment rest (b :: out)).1, none))

theorem pDS_iff (rest : Bytes) : pDS rest = true ↔ ∃ more, rest = 0x2e :: 0x2f :: more := by
  match rest with
  | [] | [_] => simp [pDS]
  | x :: y :: t => simp [pDS]
theorem pS_iff (rest : Bytes) : pS rest = true ↔ ∃ more, rest = 0x2f :: more := by
  match rest with
  | [] => simp [pS]
  | x :: t => simp [pS]
theorem pD1_iff (rest : Bytes) : pD1 rest = true ↔ rest = [0x2e] := by
  match rest with
  | [] | _ :: _ :: _ => simp [pD1]
  | [x] => simp [pD1]
theorem pDDS_iff (rest : Bytes) : pDDS rest = true ↔ ∃ more, rest = 0x2e :: 0x2e :: 0x2f :: more := by
  match rest with
  | [] | [_] | [_, _] => simp [pDDS]
  | x :: y :: z :: t => simp [pDDS, and_assoc]
theorem pDD_iff (rest : Bytes) : pDD rest = true ↔ rest = [0x2e, 0x2e] := by
  match rest with
  | [] | [_] | _ :: _ :: _ :: _ => simp [pDD]
  | [x, y] => simp [pDD]

theorem pDS_false (rest : Bytes) (h : ∀ more, rest = 0x2e :: 0x2f :: more → False) : pDS rest = false :=
  Bool.eq_false_iff.mpr fun hp => ((pDS_iff rest).mp hp).elim h
theorem pS_false (rest : Bytes) (h : ∀ more, rest = 0x2f :: more → False) : pS rest = false :=
  Bool.eq_false_iff.mpr fun hp => ((pS_iff rest).mp hp).elim h
theorem pD1_false (rest : Bytes) (h : rest = [0x2e] → False) : pD1 rest = false :=
  Bool.eq_false_iff.mpr fun hp => h ((pD1_iff rest).mp hp)
theorem pDDS_false (rest : Bytes) (h : ∀ more, rest = 0x2e :: 0x2e :: 0x2f :: more → False) : pDDS rest = false :=
  Bool.eq_false_iff.mpr fun hp => ((pDDS_iff rest).mp hp).elim h
theorem pDD_false (rest : Bytes) (h : rest = [0x2e, 0x2e] → False) : pDD rest = false :=
  Bool.eq_false_iff.mpr fun hp => h ((pDD_iff rest).mp hp)

theorem normRules_dot (rest out : Bytes) : normRules 0x2e rest out =
    if pDS rest then (out, some (rest.drop 2, none))
    else if pS rest then (out, some (rest.drop 1, none))
    else if rest.isEmpty then (out, none)
    else if pD1 rest then (out, none)
    else ruleE 0x2e rest out := by
  unfold normRules
  simp only [beq_self_eq_true, if_true]
  split
  · simp [pDS]
  · rename_i more; cases more <;> simp [pDS, pS]
  · simp [pDS, pS]
  · simp [pDS, pS, pD1]
  · rename_i h1 h2 h3 h4
    have e3 : rest.isEmpty = false := by
      cases rest with
      | nil => exact absurd rfl h3
      | cons _ _ => rfl
    simp [pDS_false rest h1, pS_false rest h2, e3, pD1_false rest h4, ruleE]

theorem normRules_slash (rest out : Bytes) : normRules 0x2f rest out =
    if pDS rest then (out, some (rest.drop 2, some 0x2f))
    else if pD1 rest then (out, none)
    else if pDDS rest then (dropLastSegment out, some (rest.drop 3, some 0x2f))
    else if pDD rest then (dropLastSegment out, none)
    else ruleE 0x2f rest out := by
  unfold normRules
  have hne : ((0x2f : UInt8) == 0x2e) = false := by decide
  simp only [hne, beq_self_eq_true, if_true, Bool.false_eq_true, if_false]
  split
  · simp [pDS]
  · simp [pDS, pD1]
  · rename_i more; cases more <;> simp [pDS, pD1, pDDS]
  · simp [pDS, pD1, pDDS, pDD]
  · rename_i h1 h2 h3 h4
    simp [pDS_false rest h1, pD1_false rest h2, pDDS_false rest h3, pDD_false rest h4, ruleE]

theorem normRules_other (b : UInt8) (rest out : Bytes) (h1 : b ≠ 0x2e) (h2 : b ≠ 0x2f) : normRules b rest out = ruleE b rest out := by
  unfold normRules
  have e1 : (b == 0x2e) = false := by simpa using h1
  have e2 : (b == 0x2f) = false := by simpa using h2
  simp [e1, e2, ruleE]

/-! the tests of the C code, evaluated on a represented state: every read is inside the buffer -/

section tests
variable {L : Nat} {mem : List Int} {r w : Nat} {rest out : Bytes}

theorem cDS_eval (h : Rep L mem r w rest out) (hL : L < 9223372036854775808) (sl cI : Int) :
    cDS (NS sl L r w cI mem) = some (pDS rest) := by
  have hr := h.hr
  simp only [cDS, u64_succ r (by omega), h.rd0, h.rd 1, h.lt_iff 1]
  rcases rest with _ | ⟨x, _ | ⟨y, t⟩⟩ <;> simp [andL_some, andL_false, pDS, dec46, dec47]

theorem cS_eval (h : Rep L mem r w rest out) (hL : L < 9223372036854775808) (sl cI : Int) :
    cS (NS sl L r w cI mem) = some (pS rest) := by
  have := h.lt_iff 0
  simp only [Nat.add_zero] at this
  simp only [cS, h.rd0, this]
  rcases rest with _ | ⟨x, t⟩ <;> simp [andL_some, andL_false, pS, dec47]

theorem cD1_eval (h : Rep L mem r w rest out) (hL : L < 9223372036854775808) (sl cI : Int) :
    cD1 (NS sl L r w cI mem) = some (pD1 rest) := by
  have hr := h.hr
  simp only [cD1, u64_succ r (by omega), h.rd0, h.eq_iff 1]
  rcases rest with _ | ⟨x, _ | ⟨y, t⟩⟩ <;> simp [andL_some, andL_false, pD1, dec46]

theorem cDDS_eval (h : Rep L mem r w rest out) (hL : L < 9223372036854775808) (sl cI : Int) :
    cDDS (NS sl L r w cI mem) = some (pDDS rest) := by
  have hr := h.hr
  simp only [cDDS, u64_succ r (by omega), u64_add2 r (by omega), h.rd0, h.rd 1, h.rd 2, h.lt_iff 2]
  rcases rest with _ | ⟨x, _ | ⟨y, _ | ⟨z, t⟩⟩⟩ <;> simp [andL_some, andL_false, pDDS, dec46, dec47]

theorem cDD_eval (h : Rep L mem r w rest out) (hL : L < 9223372036854775808) (sl cI : Int) :
    cDD (NS sl L r w cI mem) = some (pDD rest) := by
  have hr := h.hr
  simp only [cDD, u64_succ r (by omega), u64_add2 r (by omega), h.rd0, h.rd 1, h.eq_iff 2]
  rcases rest with _ | ⟨x, _ | ⟨y, _ | ⟨z, t⟩⟩⟩ <;> simp [andL_some, andL_false, pDD, dec46]

theorem cE2_eval (h : Rep L mem r w rest out) (hL : L < 9223372036854775808) (sl cI : Int) :
    cE2 (NS sl L r w cI mem) = some (decide (cI = 46) && pD1 rest) := by
  have hr := h.hr
  simp only [cE2, u64_succ r (by omega), h.rd0, h.eq_iff 1]
  rcases rest with _ | ⟨x, _ | ⟨y, t⟩⟩ <;> simp [andL_some, andL_false, pD1, dec46]

end tests

section blocks
variable {L : Nat} {mem : List Int} {r w : Nat} {rest out : Bytes}

theorem blkTail_ne46 (F : Nat) (h : Rep L mem r w rest out) (hL : L < 9223372036854775808) (sl cI : Int) (hc : cI ≠ 46) :
    blkTail F (NS sl L r w cI mem) = blkE F (NS sl L r w cI mem) := by
  simp [blkTail, blkD1, blkD2, cE2_eval h hL, hc]

theorem blkRules_dot (F : Nat) (h : Rep L mem r w rest out) (hL : L < 9223372036854775808) (sl : Int) :
    blkRules F (NS sl L r w 46 mem) =
      if pDS rest then some (.cont (NS sl L (r + 2) w (-1) mem))
      else if pS rest then some (.cont (NS sl L (r + 1) w (-1) mem))
      else if rest.isEmpty then some (.cont (NS sl L (r + 1) w 46 mem))
      else if pD1 rest then some (.cont (NS sl L (r + 2) w 46 mem))
      else blkE F (NS sl L r w 46 mem) := by
  have hr := h.hr
  have e0 : ((r : Int) = L) ↔ rest = [] := by have := h.rest_len; rw [← List.length_eq_zero_iff]; omega
  simp [blkRules, blkTail, blkA, blkBC, blkD1, blkD2, cDS_eval h hL, cS_eval h hL, cE2_eval h hL, u64_succ r (by omega),
    u64_add2 r (by omega), e0]
  rfl

theorem blkRules_slash (F : Nat) (h : Rep L mem r w rest out) (hL : L < 9223372036854775808) (sl : Int) :
    blkRules F (NS sl L r w 47 mem) =
      if pDS rest then some (.cont (NS sl L (r + 2) w 47 mem))
      else if pD1 rest then some (.cont (NS sl L (r + 1) w 47 mem))
      else if pDDS rest then seqS (htp_normalize_uri_path_inplace_loop2 F) (blkTail F) (NS sl L (r + 3) w 47 mem)
      else if pDD rest then seqS (htp_normalize_uri_path_inplace_loop2 F) (blkTail F) (NS sl L (r + 2) w 47 mem)
      else blkE F (NS sl L r w 47 mem) := by
  have hr := h.hr
  simp [blkRules, blkA, blkBC, blkB, blkC, cDS_eval h hL, cD1_eval h hL, cDDS_eval h hL, cDD_eval h hL, u64_succ r (by omega),
    u64_add2 r (by omega), u64_add3 r (by omega), loop3_eq_loop2, blkTail_ne46 F h hL]
  rfl

theorem blkRules_other (F : Nat) (h : Rep L mem r w rest out) (hL : L < 9223372036854775808) (sl cI : Int) (h1 : cI ≠ 46)
    (h2 : cI ≠ 47) : blkRules F (NS sl L r w cI mem) = blkE F (NS sl L r w cI mem) := by
  simp [blkRules, blkA, blkBC, h1, h2, blkTail_ne46 F h hL]

end blocks

/-- the C value of the pending character -/
def cval : Option UInt8 → Int | none => -1 | some b => (b.toNat : Int)
def pend : Option UInt8 → Nat | none => 0 | some _ => 1

def Inv (L : Nat) (s : St) (rest out : Bytes) (c : Option UInt8) : Prop :=
  ∃ sl r w mem, s = NS sl L r w (cval c) mem ∧ Rep L mem r w rest out ∧ w + pend c ≤ r

/-- the read cursor is at (or one past) the end: the loop is over, with this output -/
def Done (L : Nat) (s : St) (out : Bytes) : Prop :=
  ∃ sl r w cI mem, s = NS sl L r w cI mem ∧ L ≤ r ∧ w ≤ L ∧ mem.length = L ∧ mem.take w = memOf out.reverse

/-- the state represents the result of `normRules` -/
def Post (L : Nat) (s : St) : Bytes × Option (Bytes × Option UInt8) → Prop
  | (out', none) => Done L s out'
  | (out', some (rest', c')) => Inv L s rest' out' c'

theorem pDS_len {rest : Bytes} (h : pDS rest = true) : 2 ≤ rest.length := by
  match rest, h with
  | x :: y :: t, _ => simp
theorem pS_len {rest : Bytes} (h : pS rest = true) : 1 ≤ rest.length := by
  match rest, h with
  | x :: t, _ => simp
theorem pD1_len {rest : Bytes} (h : pD1 rest = true) : rest.length = 1 := by
  match rest, h with
  | [x], _ => rfl
theorem pDDS_len {rest : Bytes} (h : pDDS rest = true) : 3 ≤ rest.length := by
  match rest, h with
  | x :: y :: z :: t, _ => simp
theorem pDD_len {rest : Bytes} (h : pDD rest = true) : rest.length = 2 := by
  match rest, h with
  | [x, y], _ => rfl

section step
variable {L : Nat} {mem : List Int} {r w : Nat} {rest out : Bytes}

theorem blkE_step (F : Nat) (hL : L < 9223372036854775808) (hF : L < F) (sl : Int) (b : UInt8)
    (h : Rep L mem r w rest out) (hw : w + 1 ≤ r) :
    ∃ s', blkE F (NS sl L r w (b.toNat : Int) mem) = some (.next s') ∧ Post L s' (ruleE b rest out) := by
  have hr := h.hr
  have hl := h.rest_len
  have hwl : w < mem.length := by rw [h.hlen]; omega
  have hu := u64_succ w (by omega)
  have e1 : (assignS (fun s : St => (wrM s.s__mem s.wpos (u8 s.c)).bind fun m' => some { s with s__mem := m', wpos := (u64 (s.wpos + 1)) }))
      (NS sl L r w (b.toNat : Int) mem) = some (.next (NS sl L r (w + 1) (b.toNat : Int) (mem.set w (b.toNat : Int)))) := by
    simp only [assignS, byte_u8, wrM_nat mem w _ hwl, Option.bind_some, Option.map_some, hu]
  obtain ⟨r', w', mem', hw', hrep, hle⟩ :=
    loop1_while F L hL sl (b.toNat : Int) rest (b :: out) _ r (w + 1) F (h.write (by omega) b) (by omega) (by omega)
  refine ⟨NS sl L r' w' (-1) mem', ?_, ?_⟩
  · unfold blkE
    rw [seqS_next e1]
    unfold htp_normalize_uri_path_inplace_loop1
    rw [seqS_next hw']
    rfl
  · exact ⟨sl, r', w', mem', rfl, hrep, by simpa [pend] using hle⟩

/-- rules A, D, E: a pending `.` -/
theorem rules_dot (F : Nat) (hL : L < 9223372036854775808) (hF : L < F) (sl : Int)
    (h : Rep L mem r w rest out) (hw : w + 1 ≤ r) :
    ∃ s', (blkRules F (NS sl L r w 46 mem) = some (.next s') ∨ blkRules F (NS sl L r w 46 mem) = some (.cont s'))
      ∧ Post L s' (normRules 0x2e rest out) := by
  have hr := h.hr
  have hl := h.rest_len
  rw [normRules_dot, blkRules_dot F h hL]
  cases p1 : pDS rest with
  | true =>
    have := pDS_len p1
    exact ⟨_, Or.inr rfl, sl, r + 2, w, mem, rfl, h.skip 2 this, by simp [pend]; omega⟩
  | false =>
    cases p2 : pS rest with
    | true =>
      have := pS_len p2
      exact ⟨_, Or.inr rfl, sl, r + 1, w, mem, rfl, h.skip 1 this, by simp [pend]; omega⟩
    | false =>
      cases p3 : rest.isEmpty with
      | true =>
        have : rest.length = 0 := by simpa using p3
        exact ⟨_, Or.inr rfl, sl, r + 1, w, 46, mem, rfl, by omega, by omega, h.hlen, h.htake⟩
      | false =>
        cases p4 : pD1 rest with
        | true =>
          have := pD1_len p4
          exact ⟨_, Or.inr rfl, sl, r + 2, w, 46, mem, rfl, by omega, by omega, h.hlen, h.htake⟩
        | false =>
          obtain ⟨s', hs', hpost⟩ := blkE_step F hL hF sl 0x2e h hw
          exact ⟨s', Or.inl hs', hpost⟩

/-- rules B, C, E: a pending `/` -/
theorem rules_slash (F : Nat) (hL : L < 9223372036854775808) (hF : L < F) (sl : Int)
    (h : Rep L mem r w rest out) (hw : w + 1 ≤ r) :
    ∃ s', (blkRules F (NS sl L r w 47 mem) = some (.next s') ∨ blkRules F (NS sl L r w 47 mem) = some (.cont s'))
      ∧ Post L s' (normRules 0x2f rest out) := by
  have hr := h.hr
  have hl := h.rest_len
  rw [normRules_slash, blkRules_slash F h hL]
  cases p1 : pDS rest with
  | true =>
    have := pDS_len p1
    exact ⟨_, Or.inr rfl, sl, r + 2, w, mem, rfl, h.skip 2 this, by simp [pend]; omega⟩
  | false =>
    cases p2 : pD1 rest with
    | true =>
      have := pD1_len p2
      exact ⟨_, Or.inr rfl, sl, r + 1, w, 47, mem, rfl, by omega, by omega, h.hlen, h.htake⟩
    | false =>
      cases p3 : pDDS rest with
      | true =>
        have := pDDS_len p3
        obtain ⟨w', hw', hrep, hle⟩ := loop2_eq F L hL sl 47 (rest.drop 3) out mem (r + 3) w (h.skip 3 this) (by omega) hF
        exact ⟨_, Or.inr (seqS_cont hw'), sl, r + 3, w', mem, rfl, hrep, by simp [pend]; omega⟩
      | false =>
        cases p4 : pDD rest with
        | true =>
          have := pDD_len p4
          obtain ⟨w', hw', hrep, hle⟩ := loop2_eq F L hL sl 47 (rest.drop 2) out mem (r + 2) w (h.skip 2 (by omega)) (by omega) hF
          exact ⟨_, Or.inr (seqS_cont hw'), sl, r + 2, w', 47, mem, rfl, by omega, by omega, hrep.hlen, hrep.htake⟩
        | false =>
          obtain ⟨s', hs', hpost⟩ := blkE_step F hL hF sl 0x2f h hw
          exact ⟨s', Or.inl hs', hpost⟩

/-- rule E: any other pending character -/
theorem rules_other (F : Nat) (hL : L < 9223372036854775808) (hF : L < F) (sl : Int) (b : UInt8) (h1 : b ≠ 0x2e) (h2 : b ≠ 0x2f)
    (h : Rep L mem r w rest out) (hw : w + 1 ≤ r) :
    ∃ s', (blkRules F (NS sl L r w (b.toNat : Int) mem) = some (.next s') ∨ blkRules F (NS sl L r w (b.toNat : Int) mem) = some (.cont s'))
      ∧ Post L s' (normRules b rest out) := by
  rw [normRules_other b rest out h1 h2,
    blkRules_other F h hL sl _ (mt (toNat_int_inj b 0x2e).mp h1) (mt (toNat_int_inj b 0x2f).mp h2)]
  obtain ⟨s', hs', hpost⟩ := blkE_step F hL hF sl b h hw
  exact ⟨s', Or.inl hs', hpost⟩

theorem rules_step (F : Nat) (hL : L < 9223372036854775808) (hF : L < F) (sl : Int) (b : UInt8)
    (h : Rep L mem r w rest out) (hw : w + 1 ≤ r) :
    ∃ s', (blkRules F (NS sl L r w (b.toNat : Int) mem) = some (.next s') ∨ blkRules F (NS sl L r w (b.toNat : Int) mem) = some (.cont s'))
      ∧ Post L s' (normRules b rest out) := by
  by_cases h1 : b = 0x2e
  · subst h1; exact rules_dot F hL hF sl h hw
  · by_cases h2 : b = 0x2f
    · subst h2; exact rules_slash F hL hF sl h hw
    · exact rules_other F hL hF sl b h1 h2 h hw

end step

theorem ruleE_progress (b : UInt8) (rest out out' rest' : Bytes) (c' : Option UInt8)
    (h : ruleE b rest out = (out', some (rest', c'))) : 2 * rest'.length + pend c' ≤ 2 * rest.length := by
  simp only [ruleE, Prod.mk.injEq, Option.some.injEq] at h
  obtain ⟨_, h2, h3⟩ := h
  subst h3
  rw [← h2, copySegment_eq]
  simp only [pend]
  have := (List.dropWhile_suffix (l := rest) (· != SL)).length_le
  omega

theorem normRules_progress (b : UInt8) (rest out out' rest' : Bytes) (c' : Option UInt8)
    (h : normRules b rest out = (out', some (rest', c'))) : 2 * rest'.length + pend c' ≤ 2 * rest.length := by
  by_cases h1 : b = 0x2e
  · subst h1
    rw [normRules_dot] at h
    split at h
    · cases h; have := pDS_len ‹_›; simp [pend]; omega
    split at h
    · cases h; have := pS_len ‹_›; simp [pend]; omega
    split at h
    · cases h
    split at h
    · cases h
    · exact ruleE_progress _ _ _ _ _ _ h
  by_cases h2 : b = 0x2f
  · subst h2
    rw [normRules_slash] at h
    split at h
    · cases h; have := pDS_len ‹_›; simp [pend]; omega
    split at h
    · cases h
    split at h
    · cases h; have := pDDS_len ‹_›; simp [pend]; omega
    split at h
    · cases h
    · exact ruleE_progress _ _ _ _ _ _ h
  · rw [normRules_other b rest out h1 h2] at h
    exact ruleE_progress _ _ _ _ _ _ h

theorem cond4_nat (F : Nat) (sl : Int) (L r w : Nat) (cI : Int) (mem : List Int) :
    htp_normalize_uri_path_inplace_cond4 F (NS sl L r w cI mem) = some (decide ((r : Int) < L) && decide ((w : Int) < L)) := rfl

theorem done_exit (F L : Nat) (s : St) (out : Bytes) (n : Nat) (h : Done L s out) :
    whileF (htp_normalize_uri_path_inplace_cond4 F) (htp_normalize_uri_path_inplace_body4 F) (htp_normalize_uri_path_inplace_incr4 F)
      (n + 1) s = some (.next s) := by
  obtain ⟨sl, r, w, cI, mem, rfl, hr, _, _, _⟩ := h
  apply whileF_exit
  rw [cond4_nat]
  have : ¬ ((r : Int) < L) := by omega
  simp [this]

/-- what the model applies its rules to: the pending character, or else the next byte of the input -/
def nextRules (c : Option UInt8) (x : UInt8) (t out : Bytes) : Bytes × Option (Bytes × Option UInt8) :=
  match c with
  | none => normRules x t out
  | some b => normRules b (x :: t) out

theorem body4_step (F L : Nat) (hL : L < 9223372036854775808) (hF : L < F) (s : St) (x : UInt8) (t out : Bytes) (c : Option UInt8)
    (h : Inv L s (x :: t) out c) :
    ∃ s', (htp_normalize_uri_path_inplace_body4 F s = some (.next s') ∨ htp_normalize_uri_path_inplace_body4 F s = some (.cont s'))
      ∧ Post L s' (nextRules c x t out) := by
  obtain ⟨sl, r, w, mem, rfl, hrep, hw⟩ := h
  have hl := hrep.rest_len
  simp only [List.length_cons] at hl
  rw [body4_eq]
  cases c with
  | none =>
    have r0 : rdM mem (r : Int) = some (x.toNat : Int) := by simpa using hrep.rd0
    have e1 : blkRead (NS sl L r w (cval none) mem) = some (.next (NS sl L (r + 1) w (x.toNat : Int) mem)) := by
      simp only [blkRead, iteS, cval, decide_true, assignS, r0, Option.bind_some, Option.map_some, u64_succ r (by omega)]
    rw [seqS_next e1]
    have h1 : Rep L mem (r + 1) w t out := by simpa using hrep.skip 1 (by simp)
    exact rules_step F hL hF sl x h1 (by simp [pend] at hw; omega)
  | some b =>
    have e1 : blkRead (NS sl L r w (cval (some b)) mem) = some (.next (NS sl L r w (b.toNat : Int) mem)) := by
      simp [blkRead, iteS, cval, byte_ne_neg1 b, skipS]
    rw [seqS_next e1]
    exact rules_step F hL hF sl b hrep (by simpa [pend] using hw)

/-- the main loop = the model's `normLoop`, with enough fuel on both sides (`n`, `m`) -/
theorem main_loop (F L : Nat) (hL : L < 9223372036854775808) (hF : L < F) :
    ∀ (k : Nat) (rest out : Bytes) (c : Option UInt8) (s : St) (n m : Nat), 2 * rest.length + pend c < k → k ≤ n → k ≤ m →
      Inv L s rest out c →
      ∃ s', whileF (htp_normalize_uri_path_inplace_cond4 F) (htp_normalize_uri_path_inplace_body4 F)
              (htp_normalize_uri_path_inplace_incr4 F) n s = some (.next s') ∧ Done L s' (normLoop m rest out c) := by
  intro k
  induction k with
  | zero => intro rest out c s n m hk; omega
  | succ k ih =>
    intro rest out c s n m hk hn hm hinv
    obtain ⟨n, rfl⟩ := fuel_succ hn
    obtain ⟨m, rfl⟩ := fuel_succ hm
    cases rest with
    | nil =>
      obtain ⟨sl, r, w, mem, rfl, hrep, hw⟩ := hinv
      have hl := hrep.rest_len
      simp at hl
      have hd : Done L (NS sl L r w (cval c) mem) out := ⟨sl, r, w, cval c, mem, rfl, by omega, by omega, hrep.hlen, hrep.htake⟩
      refine ⟨_, done_exit F L _ out n hd, ?_⟩
      simpa [normLoop] using hd
    | cons x t =>
      obtain ⟨s1, hb, hpost⟩ := body4_step F L hL hF s x t out c hinv
      have hc : htp_normalize_uri_path_inplace_cond4 F s = some true := by
        obtain ⟨sl, r, w, mem, rfl, hrep, hw⟩ := hinv
        have hl := hrep.rest_len
        simp only [List.length_cons] at hl
        rw [cond4_nat]
        have a1 : ((r : Int) < L) := by omega
        have a2 : ((w : Int) < L) := by omega
        simp [a1, a2]
      erw [whileF_nc n hc hb]
      simp only [List.length_cons] at hk
      have hmodel : normLoop (m + 1) (x :: t) out c =
          (match (nextRules c x t out) with
           | (out', none) => out'
           | (out', some (rest'', c')) => normLoop m rest'' out' c') := by
        cases c <;> rfl
      rw [hmodel]
      have hprog : ∀ out' rest'' c', (nextRules c x t out) = (out', some (rest'', c')) →
          2 * rest''.length + pend c' < k := by
        intro out' rest'' c' he
        cases c with
        | none =>
          have := normRules_progress _ _ _ _ _ _ he
          change 2 * (t.length + 1) + 0 < k + 1 at hk
          omega
        | some b =>
          have := normRules_progress _ _ _ _ _ _ he
          change 2 * (t.length + 1) + 1 < k + 1 at hk
          simp only [List.length_cons] at this
          omega
      generalize (nextRules c x t out) = res at hpost hprog
      obtain ⟨out', nxt⟩ := res
      cases nxt with
      | none =>
        obtain ⟨n, rfl⟩ : ∃ n', n = n' + 1 := ⟨n - 1, by omega⟩
        exact ⟨s1, done_exit F L s1 out' n hpost, hpost⟩
      | some p =>
        obtain ⟨rest'', c'⟩ := p
        exact ih rest'' out' c' s1 n m (hprog out' rest'' c' rfl) (by omega) (by omega) hpost

end Htp.CFuns.Norm

namespace Htp.CFuns
open Htp Htp.CSem Htp.Gen.C Htp.Gen Htp.Decode Htp.CFuns.Norm

/-- the buffer keeps its length, and its first `s->len` bytes are the model's output -/
theorem htp_normalize_uri_path_inplace_eq (d : Bytes) (h1 : d.length < 9223372036854775808) (fuel : Nat) (hf : 2 * d.length + 2 < fuel) :
    ∃ s', htp_normalize_uri_path_inplace fuel (memOf d) d.length = some (0, s') ∧
          s'.s__mem.length = d.length ∧
          s'.s__mem.take s'.s__len.toNat = memOf (Htp.Decode.normalizePath d) ∧ 0 ≤ s'.s__len ∧ s'.s__len ≤ d.length := by
  have hinv : Inv d.length (NS d.length d.length 0 0 (-1) (memOf d)) d [] none :=
    ⟨d.length, 0, 0, memOf d, rfl, ⟨memOf_length d, by omega, rfl, rfl⟩, by simp [pend]⟩
  obtain ⟨s1, hloop, hdone⟩ := main_loop fuel d.length h1 (by omega) (2 * d.length + 1) d [] none _ fuel (2 * d.length + 2)
    (by simp [pend]) (by omega) (by omega) hinv
  obtain ⟨sl, r, w, cI, mem, rfl, hr, hw, hlen, htake⟩ := hdone
  refine ⟨NS w d.length r w cI mem, ?_, hlen, ?_, by simp, by simp; omega⟩
  · unfold htp_normalize_uri_path_inplace htp_normalize_uri_path_inplace_stmt htp_normalize_uri_path_inplace_loop4 run
    have e0 : ∀ (a b : Stmt Norm.St) (s : Norm.St), seqS (iteS (fun _ => some false) a skipS) b s = b s := fun a b s => rfl
    rw [e0, e0]
    simp only [seqS_assignS, Option.bind_some]
    erw [seqS_next hloop]
    rfl
  · simp only [Int.toNat_natCast]
    rw [htake]; rfl

/-- as one equation; the `0` is the translator's value for `void` -/
theorem htp_normalize_uri_path_inplace_bytes (d : Bytes) (h1 : d.length < 9223372036854775808) (fuel : Nat) (hf : 2 * d.length + 2 < fuel) :
    (htp_normalize_uri_path_inplace fuel (memOf d) d.length).map (fun r => (r.1, r.2.s__mem.take r.2.s__len.toNat))
      = some (0, memOf (Htp.Decode.normalizePath d)) := by
  obtain ⟨s', h, _, ht, _, _⟩ := htp_normalize_uri_path_inplace_eq d h1 fuel hf
  rw [h]; simp [ht]

end Htp.CFuns

#print axioms Htp.CFuns.Norm.loop1_while
#print axioms Htp.CFuns.Norm.loop2_eq
#print axioms Htp.CFuns.Norm.rules_step
#print axioms Htp.CFuns.Norm.main_loop
#print axioms Htp.CFuns.htp_normalize_uri_path_inplace_eq
#print axioms Htp.CFuns.htp_normalize_uri_path_inplace_bytes
