/- bstr_util_mem_index_of_mem and bstr_util_mem_index_of_mem_nocase as translated in HtpModel/Gen/CFuns.lean = the model's `Bstr.indexOfMem`
   and `Bstr.indexOfMemNocase` (all inputs). The translated searches have one shape and differ in the generated state type and the byte
   test, so the loops are proved once, over a state `mk i j k` and from what `cond`, `body`, `incr` do on it: the inner loop decides
   `Bstr.prefixMatch eq` at the current position (loop rule, `Lemmas/CSemLoop.lean`), the outer loop returns the first position that
   passes a test (induction over the remaining haystack). Every read inside the arrays; both loops finish within `len1 + 1` turns. -/
import HtpModel.Lemmas.CFunsBase
import HtpModel.Prim.Bstr
namespace Htp.CFuns
open Htp Htp.CSem Htp.Gen.C Htp.Gen

section Search
variable {σ : Type} (mk : Nat → Nat → Nat → σ) (hay needle : Bytes)

/-- the inner loop from `(i, j, k)` followed by `if (j == len2) return i;` -/
theorem search_at (eq : UInt8 → UInt8 → Bool) (i : Nat) {cond : σ → Option Bool} {body incr rest : Stmt σ}
    (hc : ∀ j k, cond (mk i j k) = some (decide (j < needle.length) && decide (k < hay.length)))
    (hb : ∀ j k x y t u, hay.drop k = x :: t → needle.drop j = y :: u →
      body (mk i j k) = if eq x y then some (.next (mk i j k)) else some (.brk (mk i j k)))
    (hi : ∀ j k, j ≤ k → k < hay.length → incr (mk i j k) = some (.next (mk i (j + 1) (k + 1))))
    (hr : ∀ j k, rest (mk i j k) = if (j : Int) = needle.length then some (.ret (mk i j k) i) else some (.next (mk i j k)))
    (n j k : Nat) (hjk : j ≤ k) (hjl : j ≤ needle.length) (hn : hay.length - k < n) :
    ∃ j' k', seqS (whileF cond body incr n) rest (mk i j k)
      = if Bstr.prefixMatch eq (hay.drop k) (needle.drop j) then some (.ret (mk i j' k') i) else some (.next (mk i j' k')) := by
  refine loop_post (fun jk : Nat × Nat => mk i jk.1 jk.2) (fun jk => jk.1 ≤ jk.2 ∧ jk.1 ≤ needle.length) (hay.length - ·.2)
    (fun jk r => ∃ j' k', r = if Bstr.prefixMatch eq (hay.drop jk.2) (needle.drop jk.1) then some (.ret (mk i j' k') i)
      else some (.next (mk i j' k'))) ?_ n (j, k) ⟨hjk, hjl⟩ hn
  intro ⟨j, k⟩ ⟨hjk, hjl⟩ again ih
  dsimp only at hjk hjl ih ⊢
  unfold turn
  rw [hc]
  cases hy : needle.drop j with
  | nil =>
    have l2 := le_of_drop_nil hy
    refine ⟨j, k, ?_⟩
    rw [decide_eq_false (Nat.not_lt.2 l2), Bool.false_and, Option.bind_some, if_neg Bool.false_ne_true, hr, if_pos (by omega)]
    simp [Bstr.prefixMatch]
  | cons y u =>
    have l2 := lt_of_drop_cons hy
    cases hx : hay.drop k with
    | nil =>
      have l1 := le_of_drop_nil hx
      refine ⟨j, k, ?_⟩
      rw [decide_eq_false (Nat.not_lt.2 l1), Bool.and_false, Option.bind_some, if_neg Bool.false_ne_true, hr, if_neg (by omega)]
      simp [Bstr.prefixMatch]
    | cons x t =>
      have l1 := lt_of_drop_cons hx
      rw [decide_eq_true l1, decide_eq_true l2, Bool.and_self, Option.bind_some, if_pos rfl, hb j k x y t u hx hy]
      by_cases hxy : eq x y = true
      · obtain ⟨j', k', h⟩ := ih (j + 1, k + 1) ⟨Nat.succ_le_succ hjk, l2⟩ (Nat.sub_lt_sub_left l1 (Nat.lt_succ_self k))
        refine ⟨j', k', ?_⟩
        rw [if_pos hxy, go_next, hi j k hjk l1, go_next, h, drop_succ_of_drop hx, drop_succ_of_drop hy]
        simp [Bstr.prefixMatch, hxy]
      · refine ⟨j, k, ?_⟩
        rw [if_neg hxy, go_brk, hr, if_neg (by omega)]
        simp [Bstr.prefixMatch, hxy]

/-- the outer loop; `aux` is the model's first-match recursion -/
theorem search_outer (test : Bytes → Bool) (aux : Bytes → Nat → Option Nat) {cond : σ → Option Bool} {body incr rest : Stmt σ}
    (haux0 : ∀ i, aux [] i = none)
    (haux : ∀ h t i, aux (h :: t) i = if test (h :: t) then some i else aux t (i + 1))
    (hc : ∀ i j k, cond (mk i j k) = some (decide (i < hay.length)))
    (hb : ∀ i j k, i < hay.length → ∃ j' k',
      body (mk i j k) = (if test (hay.drop i) then some (.ret (mk i j' k') i) else some (.next (mk i j' k'))) ∨
      (test (hay.drop i) = false ∧ body (mk i j k) = some (.cont (mk i j' k'))))
    (hi : ∀ i j k, i < hay.length → incr (mk i j k) = some (.next (mk (i + 1) j k)))
    (hr : ∀ s, rest s = some (.ret s (-1))) :
    ∀ (a : Bytes) (i j k n : Nat), hay.drop i = a → a.length < n →
      retVal (seqS (whileF cond body incr n) rest (mk i j k))
        = some (match aux a i with | some r => (r : Int) | none => -1) := by
  intro a
  induction a with
  | nil =>
    intro i j k n ha hn
    obtain ⟨m, rfl⟩ := fuel_succ hn
    have hl := le_of_drop_nil ha
    rw [seqS_next (whileF_exit m (by rw [hc]; simp; omega)), hr, haux0]
    rfl
  | cons x a' ih =>
    intro i j k n ha hn
    obtain ⟨m, rfl⟩ := fuel_succ hn
    have hl := lt_of_drop_cons ha
    have hc' : cond (mk i j k) = some true := by rw [hc]; simp [hl]
    have hrec := fun j' k' => ih (i + 1) j' k' m (drop_succ_of_drop ha) (by simp at hn; omega)
    rw [haux]
    obtain ⟨j', k', hb' | ⟨ht, hb'⟩⟩ := hb i j k hl
    · rw [ha] at hb'
      by_cases hp : test (x :: a') = true
      · rw [if_pos hp] at hb' ⊢
        rw [seqS_ret (whileF_ret m hc' hb')]
        rfl
      · rw [if_neg hp] at hb' ⊢
        rw [seqS_congr (whileF_next m hc' hb' (hi i j' k' hl))]
        exact hrec j' k'
    · rw [ha] at ht
      rw [seqS_congr (whileF_cont m hc' hb' (hi i j' k' hl)), ht]
      exact hrec j' k'

end Search

/-- the loop state of the translated bstr_util_mem_index_of_mem: position `i` in the haystack, inner cursors `j` (needle), `k` (haystack) -/
abbrev SI (hay needle : Bytes) (i j k : Nat) : St_bstr_util_mem_index_of_mem :=
  { len1 := hay.length, len2 := needle.length, i := i, j := j, k := k }

/-- `h1`: so that `(int) i` is `i` -/
theorem bstr_util_mem_index_of_mem_eq (hay needle : Bytes) (h1 : hay.length ≤ 2147483648) (fuel : Nat) (hf : hay.length < fuel) :
    (bstr_util_mem_index_of_mem fuel hay needle hay.length needle.length).map (·.1)
      = some (match Bstr.indexOfMem hay needle with | some i => (i : Int) | none => -1) := by
  unfold bstr_util_mem_index_of_mem
  rw [run_val]
  refine search_outer (SI hay needle) hay (Bstr.prefixMatch Bstr.eqExact · needle) (Bstr.indexOfAux Bstr.eqExact needle)
    (fun _ => rfl) (fun _ _ _ => rfl) (fun i j k => by simp [bstr_util_mem_index_of_mem_cond2]) (fun i j k hi => ?_)
    (fun i j k hi => by simp [bstr_util_mem_index_of_mem_incr2, assignS, u64_succ i (by omega)]) (fun _ => rfl) hay 0 0 0 fuel rfl hf
  obtain ⟨j', k', h⟩ := search_at (SI hay needle) hay needle Bstr.eqExact i
    (cond := bstr_util_mem_index_of_mem_cond1 fuel hay needle) (body := bstr_util_mem_index_of_mem_body1 fuel hay needle)
    (incr := bstr_util_mem_index_of_mem_incr1 fuel hay needle) (rest := bstr_util_mem_index_of_mem_rest1 fuel hay needle)
    (fun j k => by simp [bstr_util_mem_index_of_mem_cond1])
    (fun j k x y t u hx hy => by
      simp [bstr_util_mem_index_of_mem_body1, iteS_bind, skipS, brkS, rd_of_drop hx, rd_of_drop hy, toNat_int_inj, Bstr.eqExact])
    (fun j k hjk hk => by simp [bstr_util_mem_index_of_mem_incr1, seqS, assignS, u64_succ j (by omega), u64_succ k (by omega)])
    (fun j k => by simp [bstr_util_mem_index_of_mem_rest1, iteS_bind, retS, skipS, i32_nat i (by omega)])
    fuel 0 i (Nat.zero_le _) (Nat.zero_le _) (by omega)
  exact ⟨j', k', .inl h⟩

theorem bstr_util_mem_index_of_mem_empty_needle (hay : Bytes) (h1 : hay.length ≤ 2147483648) (fuel : Nat) (hf : hay.length < fuel) :
    (bstr_util_mem_index_of_mem fuel hay [] hay.length 0).map (·.1) = some (if hay = [] then -1 else 0) := by
  have := bstr_util_mem_index_of_mem_eq hay [] h1 fuel hf
  simp only [List.length_nil, Int.natCast_zero] at this
  rw [this]
  cases hay <;> simp [Bstr.indexOfMem, Bstr.indexOfAux, Bstr.prefixMatch]

/-- the C compares `toupper(data1[k]) != toupper(data2[j])`, the model `Bstr.eqUpper` -/
abbrev SIU (hay needle : Bytes) (i j k : Nat) : St_bstr_util_mem_index_of_mem_nocase :=
  { len1 := hay.length, len2 := needle.length, i := i, j := j, k := k }

theorem bstr_util_mem_index_of_mem_nocase_eq (hay needle : Bytes) (h1 : hay.length ≤ 2147483648) (fuel : Nat) (hf : hay.length < fuel) :
    (bstr_util_mem_index_of_mem_nocase fuel hay needle hay.length needle.length).map (·.1)
      = some (match Bstr.indexOfMemNocase hay needle with | some i => (i : Int) | none => -1) := by
  unfold bstr_util_mem_index_of_mem_nocase
  rw [run_val]
  refine search_outer (SIU hay needle) hay (Bstr.prefixMatch Bstr.eqUpper · needle) (Bstr.indexOfAux Bstr.eqUpper needle)
    (fun _ => rfl) (fun _ _ _ => rfl) (fun i j k => by simp [bstr_util_mem_index_of_mem_nocase_cond2]) (fun i j k hi => ?_)
    (fun i j k hi => by simp [bstr_util_mem_index_of_mem_nocase_incr2, assignS, u64_succ i (by omega)]) (fun _ => rfl) hay 0 0 0 fuel rfl hf
  obtain ⟨j', k', h⟩ := search_at (SIU hay needle) hay needle Bstr.eqUpper i
    (cond := bstr_util_mem_index_of_mem_nocase_cond1 fuel hay needle) (body := bstr_util_mem_index_of_mem_nocase_body1 fuel hay needle)
    (incr := bstr_util_mem_index_of_mem_nocase_incr1 fuel hay needle) (rest := bstr_util_mem_index_of_mem_nocase_rest1 fuel hay needle)
    (fun j k => by simp [bstr_util_mem_index_of_mem_nocase_cond1])
    (fun j k x y t u hx hy => by
      simp [bstr_util_mem_index_of_mem_nocase_body1, iteS_bind, skipS, brkS, rd_of_drop hx, rd_of_drop hy, toupperI_toNat, toNat_int_inj, Bstr.eqUpper])
    (fun j k hjk hk => by simp [bstr_util_mem_index_of_mem_nocase_incr1, seqS, assignS, u64_succ j (by omega), u64_succ k (by omega)])
    (fun j k => by simp [bstr_util_mem_index_of_mem_nocase_rest1, iteS_bind, retS, skipS, i32_nat i (by omega)])
    fuel 0 i (Nat.zero_le _) (Nat.zero_le _) (by omega)
  exact ⟨j', k', .inl h⟩

theorem bstr_util_mem_index_of_mem_nocase_empty_needle (hay : Bytes) (h1 : hay.length ≤ 2147483648) (fuel : Nat) (hf : hay.length < fuel) :
    (bstr_util_mem_index_of_mem_nocase fuel hay [] hay.length 0).map (·.1) = some (if hay = [] then -1 else 0) := by
  have := bstr_util_mem_index_of_mem_nocase_eq hay [] h1 fuel hf
  simp only [List.length_nil, Int.natCast_zero] at this
  rw [this]
  cases hay <;> simp [Bstr.indexOfMemNocase, Bstr.indexOfAux, Bstr.prefixMatch]

end Htp.CFuns
