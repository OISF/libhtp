/- The string and number primitives: a search decided on a literal head (Props/C14); for Props/C17 the search loops and
   `bstr_util_mem_to_pint` on a run of digits. -/
import HtpModel.Prim.Num
namespace Htp.Bstr
open Htp

theorem prefixMatch_length (eq : UInt8 → UInt8 → Bool) (a n : Bytes) (h : prefixMatch eq a n = true) : n.length ≤ a.length := by
  induction n generalizing a with
  | nil => exact Nat.zero_le _
  | cons x n ih =>
    cases a with
    | nil => simp [prefixMatch] at h
    | cons y a =>
      rw [prefixMatch] at h
      split at h
      · exact Nat.succ_le_succ (ih a h)
      · cases h

theorem prefixMatch_append (eq : UInt8 → UInt8 → Bool) (a t n : Bytes) (h : n.length ≤ a.length) :
    prefixMatch eq (a ++ t) n = prefixMatch eq a n := by
  induction n generalizing a with
  | nil => simp [prefixMatch]
  | cons x n ih =>
    cases a with
    | nil => cases h
    | cons y a =>
      rw [List.cons_append, prefixMatch, prefixMatch, ih a (Nat.le_of_succ_le_succ h)]

theorem indexOfAux_length (eq : UInt8 → UInt8 → Bool) (n a : Bytes) (i r : Nat) (h : indexOfAux eq n a i = some r) : n.length ≤ a.length := by
  induction a generalizing i with
  | nil => cases h
  | cons y a ih =>
    rw [indexOfAux] at h
    split at h
    · exact prefixMatch_length eq _ _ ‹_›
    · exact Nat.le_succ_of_le (ih _ h)

/-- a match found in `a` is the first match in `a ++ t`: no earlier position can start one there, as the needle ends inside `a` -/
theorem indexOfAux_append (eq : UInt8 → UInt8 → Bool) (n a t : Bytes) (i r : Nat) (h : indexOfAux eq n a i = some r) :
    indexOfAux eq n (a ++ t) i = some r := by
  induction a generalizing i with
  | nil => cases h
  | cons y a ih =>
    have hl := indexOfAux_length eq n _ i r h
    rw [indexOfAux] at h
    rw [List.cons_append, indexOfAux, ← List.cons_append, prefixMatch_append eq _ t n hl]
    split
    · rwa [if_pos ‹_›] at h
    · rw [if_neg ‹_›] at h
      exact ih _ h

end Htp.Bstr

namespace Htp.C17
open Htp Htp.Gen Htp.Bstr Htp.Num

theorem prim_begins_with_iff (hay needle : Bytes) : beginsWithMem hay needle = true ↔ needle <+: hay := by
  unfold beginsWithMem
  induction needle generalizing hay with
  | nil => simp [prefixMatch]
  | cons n ns ih =>
    cases hay with
    | nil => simp [prefixMatch]
    | cons h hs =>
      simp only [prefixMatch, eqExact]
      by_cases e : h = n
      · subst e; simp [ih, List.cons_prefix_cons]
      · have : (h == n) = false := by simpa using e
        simp only [this, Bool.false_eq_true, if_false, false_iff, List.cons_prefix_cons]
        intro hc; exact e hc.1.symm

theorem indexOfAux_spec (needle : Bytes) (hay : Bytes) (i : Nat) :
    (∀ r, indexOfAux eqExact needle hay i = some r →
        i ≤ r ∧ r - i < hay.length ∧ needle <+: hay.drop (r - i) ∧ ∀ j, j < r - i → ¬ needle <+: hay.drop j) ∧
    (indexOfAux eqExact needle hay i = none → ∀ j, j < hay.length → ¬ needle <+: hay.drop j) := by
  induction hay generalizing i with
  | nil => simp [indexOfAux]
  | cons h t ih =>
    unfold indexOfAux
    by_cases hp : prefixMatch eqExact (h :: t) needle = true
    · simp only [hp, if_true]
      constructor
      · intro r hr
        simp only [Option.some.injEq] at hr
        subst hr
        refine ⟨Nat.le_refl _, by simp, ?_, by intro j hj; omega⟩
        simpa using (prim_begins_with_iff (h :: t) needle).mp hp
      · intro hc; simp at hc
    · have hp' : prefixMatch eqExact (h :: t) needle = false := by simpa using hp
      have hnp : ¬ needle <+: (h :: t) := fun hc => hp ((prim_begins_with_iff (h :: t) needle).mpr hc)
      simp only [hp', Bool.false_eq_true, if_false]
      obtain ⟨ih1, ih2⟩ := ih (i + 1)
      constructor
      · intro r hr
        obtain ⟨a, b, c, d⟩ := ih1 r hr
        have e : r - i = (r - (i + 1)) + 1 := by omega
        refine ⟨by omega, by simp; omega, ?_, ?_⟩
        · rw [e]; simpa using c
        · intro j hj
          cases j with
          | zero => simpa using hnp
          | succ j' => simpa using d j' (by omega)
      · intro hn j hj
        cases j with
        | zero => simpa using hnp
        | succ j' => simpa using ih2 hn j' (by simpa using hj)

theorem chrAux_eq (c : UInt8) (b : Bytes) (i : Nat) : chrAux c b i = (b.findIdx? (· == c)).map (· + i) := by
  induction b generalizing i with
  | nil => simp [chrAux]
  | cons h t ih =>
    unfold chrAux
    by_cases e : (h == c) = true
    · simp [e, List.findIdx?_cons]
    · have e' : (h == c) = false := by simpa using e
      simp only [e', Bool.false_eq_true, if_false, List.findIdx?_cons, ih]
      cases t.findIdx? (· == c) <;> simp <;> omega

/-- positional value of a digit string continuing from `r` (digits outside the base never occur under the hypotheses below) -/
def valueOf (base : Nat) : Bytes → Nat → Nat
  | [], r => r
  | c :: cs, r => valueOf base cs (r * base + (digitVal c).getD 0)

theorem valueOf_ge (base : Nat) (hb : 0 < base) (cs : Bytes) (r : Nat) : r ≤ valueOf base cs r := by
  induction cs generalizing r with
  | nil => exact Nat.le_refl _
  | cons c t ih => exact Nat.le_trans (Nat.le_trans (Nat.le_mul_of_pos_right r hb) (Nat.le_add_right ..)) (ih _)

theorem pintLoop_digits (base : Nat) (hb : 0 < base) (cs rest : Bytes) (i r : Nat)
    (hd : ∀ c ∈ cs, ∃ d, digitVal c = some d ∧ d < base) (hfit : valueOf base cs r ≤ INT64_MAX') :
    pintLoop base (cs ++ rest) i (some r) = pintLoop base rest (i + cs.length) (some (valueOf base cs r)) := by
  induction cs generalizing i r with
  | nil => rfl
  | cons c t ih =>
    obtain ⟨d, hdv, hlt⟩ := hd c (by simp)
    have hfit' : valueOf base t (r * base + d) ≤ INT64_MAX' := by simpa [valueOf, hdv] using hfit
    have hle : r * base + d ≤ INT64_MAX' := Nat.le_trans (valueOf_ge base hb t _) hfit'
    have hno : ¬ (INT64_MAX' - d) / base < r := by rw [Nat.not_lt, Nat.le_div_iff_mul_le hb]; omega
    simp only [List.cons_append, pintLoop, hdv, ge_iff_le, Nat.not_le.mpr hlt, hno, if_false,
      ih _ _ (fun c hc => hd c (List.mem_cons_of_mem _ hc)) hfit', valueOf, Option.getD_some, List.length_cons]
    rw [Nat.add_right_comm, Nat.add_assoc]

theorem memToPint_run (base : Nat) (hb : 0 < base) (c : UInt8) (cs rest : Bytes)
    (hd : ∀ x ∈ c :: cs, ∃ d, digitVal x = some d ∧ d < base) (hfit : valueOf base (c :: cs) 0 ≤ INT64_MAX')
    (hrest : ∀ w ws, rest = w :: ws → ∀ d, digitVal w = some d → d ≥ base) :
    memToPint (c :: cs ++ rest) base = (((valueOf base (c :: cs) 0 : Nat) : Int), (c :: cs).length + if rest = [] then 1 else 0) := by
  obtain ⟨d, hdv, hlt⟩ := hd c (by simp)
  have hfit' : valueOf base cs d ≤ INT64_MAX' := by simpa [valueOf, hdv] using hfit
  simp only [memToPint, List.cons_append, pintLoop, hdv, ge_iff_le, Nat.not_le.mpr hlt, if_false,
    pintLoop_digits base hb cs rest _ d (fun x hx => hd x (List.mem_cons_of_mem _ hx)) hfit',
    valueOf, Nat.zero_mul, Nat.zero_add, Option.getD_some, List.length_cons]
  cases rest with
  | nil => simp [pintLoop]; omega
  | cons w ws =>
    have hw := hrest w ws rfl
    cases hdw : digitVal w with
    | none => simp [pintLoop, hdw]; omega
    | some e => simp [pintLoop, hdw, hw e hdw]; omega

theorem lws_not_digit : ∀ c : UInt8, isLws c = true → digitVal c = none := by
  apply forall_uint8_of_lt
  decide +kernel

theorem prim_ppiw_value (base : Nat) (hb : 0 < base) (ws1 ws2 : Bytes) (c : UInt8) (cs : Bytes)
    (h1 : ∀ x ∈ ws1, isLws x = true) (h2 : ∀ x ∈ ws2, isLws x = true)
    (hd : ∀ x ∈ c :: cs, ∃ d, digitVal x = some d ∧ d < base) (hfit : valueOf base (c :: cs) 0 ≤ INT64_MAX') :
    parsePositiveIntegerWhitespace (ws1 ++ (c :: cs) ++ ws2) base = ((valueOf base (c :: cs) 0 : Nat) : Int) := by
  obtain ⟨d, hdv, -⟩ := hd c (by simp)
  have hcl : ¬ isLws c = true := fun h => by rw [lws_not_digit c h] at hdv; cases hdv
  have hrun := memToPint_run base hb c cs ws2 hd hfit fun w ws e d hw => by
    rw [lws_not_digit w (h2 w (e ▸ List.mem_cons_self ..))] at hw; cases hw
  have hdw : (ws1 ++ (c :: cs) ++ ws2).dropWhile isLws = c :: cs ++ ws2 := by
    rw [List.append_assoc, List.dropWhile_append_of_pos h1]; exact List.dropWhile_cons_of_neg hcl
  have htail : ∀ k, ((ws1 ++ (c :: cs) ++ ws2).drop (ws1.length + ((c :: cs).length + k))).all isLws = true := by
    intro k
    rw [← Nat.add_assoc, ← List.length_append, List.drop_length_add_append, List.all_eq_true]
    exact fun x hx => h2 x (List.mem_of_mem_drop hx)
  have hpos : (ws1 ++ (c :: cs) ++ ws2).length - (c :: cs ++ ws2).length = ws1.length := by simp
  have hlen : ¬ (ws1 ++ (c :: cs) ++ ws2).length = 0 := by simp
  have hne : ¬ ws1.length = (ws1 ++ (c :: cs) ++ ws2).length := by simp
  have hnn : ¬ ((valueOf base (c :: cs) 0 : Nat) : Int) < 0 := by omega
  simp only [parsePositiveIntegerWhitespace, hdw, hrun, hpos, htail, hlen, hne, hnn, if_false, if_true]

theorem digitVal_of_hexdigit : ∀ c : UInt8, isHexDigitC c = true → ∃ d, digitVal c = some d ∧ d < 16 := by
  apply forall_uint8_of_lt
  decide +kernel

/-- only '0'..'9' have a digit value below ten: the letter ranges of `digitVal` start at ten -/
theorem decdigit_range (c : UInt8) (h : ∃ d, digitVal c = some d ∧ d < 10) : (c.toNat < 48 || c.toNat > 57) = false := by
  obtain ⟨d, hd, hlt⟩ := h
  unfold digitVal at hd
  split at hd
  · simp; omega
  · split at hd
    · cases hd; omega
    · split at hd
      · cases hd; omega
      · cases hd

end Htp.C17
