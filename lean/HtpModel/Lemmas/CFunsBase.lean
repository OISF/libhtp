/- Facts shared by the proofs about the translated C functions (HtpModel/Gen/CFuns.lean, regenerated from /repo on every run):
   reading a byte pointer at the head of a suffix, suffix bookkeeping, running a loop-free statement, wraps that do nothing, bytes as
   C `int`s, reads and writes of a buffer at a natural-number index.

   Which tool when.
   * Running a loop-free statement from its start: `simp` with the `seqS_*` equations below; the rest of the block is handed to its first
     statement, and what is left is nested `if` / `Option.bind` (a test `simp` cannot decide needs `iteS_bind`). A first statement that
     cannot be run this way (a loop, a block proved separately) stays a `seqS`, so that `seqS_next` / `seqS_ret` of CSem.lean apply to it
     afterwards. Inside one turn of a loop the `go_*` equations of `Lemmas/CSemLoop.lean` do the same and also carry `break` / `continue`.
   * Observers of an outcome: `outcome` (value and whole state, what `run` returns: `run_outcome`), `retVal` (value only: `run_val`),
     `retWith f` (value and one out-parameter: `run_retWith`). A model result `Option Nat` (an index, or none) is compared with the C `int`
     as `match r with | some i => (i : Int) | none => -1`, written inline in each statement.
   * Using an equation `(f fuel ..).map obs = some v`: it says the run is defined (`Option.isSome` of the left side: every read and write
     inside the buffers, the loops done within the fuel); the whole end state comes from the `_run` / `_full` variant where there is one
     (`htp_chomp_run`).
   * Loops: the loop rule `loop_eq` / `loop_post` of `Lemmas/CSemLoop.lean`. A byte scan `while (more && p(d[i])) i++` whose end state
     the caller goes on with: `scan_loop`. The step lemmas `whileF_exit/next/cont/brk/ret` of CSem.lean in a hand induction over the
     remaining input: inside the users of `scan_loop`, and where the loop's state has many coupled components and the rule is dearer to
     check (the in-place normaliser, the digit loop of bstr_util_mem_to_pint, `search_outer`). -/
import HtpModel.Gen.CFuns
import HtpModel.Lemmas.CSemLoop
namespace Htp.CFuns
open Htp Htp.CSem Htp.Gen.C Htp.Gen

/-- the index view of the C code against the suffix view of the models -/
theorem rd_drop (d : Bytes) (p k : Nat) : rd d ((p + k : Nat) : Int) = ((d.drop p)[k]?).map fun b => (b.toNat : Int) := by
  unfold rd
  rw [if_neg (by omega), Int.toNat_natCast, List.getElem?_drop]

theorem rdM_memOf_eq (d : Bytes) (i : Int) : rdM (memOf d) i = rd d i := by
  unfold rdM rd memOf; rw [List.getElem?_map]

theorem rd_append (d junk : Bytes) (p : Nat) (h : p < d.length) : rd (d ++ junk) (p : Int) = rd d (p : Int) := by
  unfold rd; rw [Int.toNat_natCast, List.getElem?_append_left h]

theorem rd_of_drop {d : Bytes} {p : Nat} {x : UInt8} {t : Bytes} (h : d.drop p = x :: t) :
    rd d (p : Int) = some (x.toNat : Int) := by
  simpa [h] using rd_drop d p 0

theorem rd_off {d : Bytes} {off k : Nat} {x : UInt8} {t : Bytes} (h : (d.drop off).drop k = x :: t) :
    rd d ((off : Int) + (k : Int)) = some (x.toNat : Int) := by
  rw [List.drop_drop] at h
  exact rd_of_drop (p := off + k) h

theorem drop_succ_of_drop {d : Bytes} {p : Nat} {x : UInt8} {t : Bytes} (h : d.drop p = x :: t) : d.drop (p + 1) = t := by
  have : d.drop (p + 1) = (d.drop p).drop 1 := by rw [List.drop_drop]; 
  rw [this, h]; rfl

theorem lt_of_drop_cons {d : Bytes} {p : Nat} {x : UInt8} {t : Bytes} (h : d.drop p = x :: t) : p < d.length := by
  rcases Nat.lt_or_ge p d.length with h' | h'
  · exact h'
  · rw [List.drop_eq_nil_of_le h'] at h; cases h

theorem le_of_drop_nil {d : Bytes} {p : Nat} (h : d.drop p = []) : d.length ≤ p := by
  simpa using h

/-- the case analysis a loop over an array makes at position `p` (for a `bstr *` rewrite the read with `rdM_memOf_eq` first, or take
    `rdM_of_drop`; `Nat.not_lt.mpr` of the first case refutes the loop condition) -/
theorem drop_cases (d : Bytes) (p : Nat) :
    (d.drop p = [] ∧ d.length ≤ p) ∨
    ∃ x t, d.drop p = x :: t ∧ p < d.length ∧ rd d (p : Int) = some (x.toNat : Int) ∧ d.drop (p + 1) = t := by
  cases h : d.drop p with
  | nil => exact .inl ⟨rfl, le_of_drop_nil h⟩
  | cons x t => exact .inr ⟨x, t, rfl, lt_of_drop_cons h, rd_of_drop h, drop_succ_of_drop h⟩

section Run
variable {σ : Type}

theorem iteS_bind (c : σ → Option Bool) (a b : Stmt σ) (s : σ) :
    iteS c a b s = (c s).bind fun v => if v then a s else b s := by
  unfold iteS
  cases c s with
  | none => rfl
  | some v => cases v <;> rfl

@[simp] theorem seqS_seqS (a b k : Stmt σ) (s : σ) : seqS (seqS a b) k s = seqS a (seqS b k) s := by
  unfold seqS
  cases a s with
  | none => rfl
  | some r => cases r <;> rfl
@[simp] theorem seqS_skipS (k : Stmt σ) (s : σ) : seqS skipS k s = k s := rfl
@[simp] theorem seqS_brkS (k : Stmt σ) (s : σ) : seqS brkS k s = some (.brk s) := rfl
@[simp] theorem seqS_contS (k : Stmt σ) (s : σ) : seqS contS k s = some (.cont s) := rfl
@[simp] theorem seqS_assignS (f : σ → Option σ) (k : Stmt σ) (s : σ) : seqS (assignS f) k s = (f s).bind k := by
  unfold seqS assignS
  cases f s <;> rfl
@[simp] theorem seqS_retS (e : σ → Option Int) (k : Stmt σ) (s : σ) : seqS (retS e) k s = retS e s := by
  unfold seqS retS
  cases e s <;> rfl
@[simp] theorem seqS_iteS (c : σ → Option Bool) (a b k : Stmt σ) (s : σ) :
    seqS (iteS c a b) k s = (c s).bind fun v => if v then seqS a k s else seqS b k s := by
  unfold seqS
  rw [iteS_bind]
  cases c s with
  | none => rfl
  | some v => cases v <;> rfl

@[simp high] theorem seqS_assignS_ite (c : σ → Prop) [∀ s, Decidable (c s)] (f g : σ → σ) (k : Stmt σ) (s : σ) :
    seqS (assignS (fun s => some (if c s then f s else g s))) k s = if c s then k (f s) else k (g s) := by
  rw [seqS_go, go_assignS_ite]

theorem andL_true (b : Option Bool) : andL (some true) b = b := rfl
theorem andL_false (b : Option Bool) : andL (some false) b = some false := rfl
theorem andL_some (a b : Bool) : andL (some a) (some b) = some (a && b) := by cases a <;> rfl
theorem orL_some (a b : Bool) : orL (some a) (some b) = some (a || b) := by cases a <;> rfl

def outcome (r : Option (Ctl σ)) : Option (Int × σ) :=
  match r with
  | some (.ret s v) => some (v, s)
  | _ => none

theorem run_outcome (body : Stmt σ) (s : σ) : run body s = outcome (body s) := rfl
@[simp] theorem outcome_ret (s : σ) (v : Int) : outcome (some (.ret s v)) = some (v, s) := rfl
@[simp] theorem outcome_none : outcome (none : Option (Ctl σ)) = none := rfl
@[simp] theorem outcome_ite (c : Prop) [Decidable c] (a b : Option (Ctl σ)) :
    outcome (if c then a else b) = if c then outcome a else outcome b := apply_ite outcome c a b

theorem outcome_bind_ret {α : Type} (x : Option α) (f : α → σ) (v : α → Int) :
    outcome (x.bind fun m => some (.ret (f m) (v m))) = x.map fun m => (v m, f m) := by
  cases x <;> rfl

def retWith {α : Type} (f : σ → α) (r : Option (Ctl σ)) : Option (Int × α) :=
  match r with
  | some (.ret s v) => some (v, f s)
  | _ => none

theorem run_retWith {α : Type} (f : σ → α) (body : Stmt σ) (s : σ) :
    (run body s).map (fun r => (r.1, f r.2)) = retWith f (body s) := by
  unfold run retWith
  split <;> simp_all

theorem map_ite {α β : Type} (f : α → β) (c : Prop) [Decidable c] (a b : Option α) :
    (if c then a else b).map f = if c then a.map f else b.map f :=
  apply_ite _ c a b

end Run

theorem fuel_succ {k n : Nat} (h : k < n) : ∃ m, n = m + 1 := ⟨n - 1, by omega⟩

theorem u64_succ (p : Nat) (h : p + 1 < 18446744073709551616) : u64 ((p : Int) + 1) = ((p + 1 : Nat) : Int) := by
  rw [u64_id] <;> omega

theorem u64_add (a b : Nat) (h : a + b < 18446744073709551616) : u64 ((a : Int) + b) = ((a + b : Nat) : Int) := by
  rw [u64_id] <;> omega

theorem i32_nat (p : Nat) (h : p < 2147483648) : i32 (p : Int) = p := by
  rw [i32_id] <;> omega

theorem toNat_int_inj (x y : UInt8) : ((x.toNat : Int) = y.toNat) ↔ x = y :=
  Int.ofNat_inj.trans UInt8.toNat_inj

theorem toNat_int_eq_zero (x : UInt8) : ((x.toNat : Int) = 0) ↔ x = 0 := toNat_int_inj x 0

/-- a comparison of a byte read from memory with a character constant, as the translated conditions spell it -/
theorem dec_byte (x k : UInt8) : decide ((x.toNat : Int) = k.toNat) = (x == k) := by
  simp only [toNat_int_inj]; rfl
theorem toNat_eq_zero (x : UInt8) : x.toNat = 0 ↔ x = 0 := UInt8.toNat_inj (b := 0)

theorem b2i_true : b2i true = 1 := rfl
theorem b2i_false : b2i false = 0 := rfl
theorem u64_zero : u64 0 = 0 := rfl

theorem byte_u8 (a : UInt8) : u8 (a.toNat : Int) = (a.toNat : Int) := by
  have := a.toNat_lt
  rw [u8_id] <;> omega

theorem u64_nat (n : Nat) (h : n < 18446744073709551616) : u64 (n : Int) = (n : Int) :=
  u64_id (by omega) (by omega)

theorem memOf_append (a b : Bytes) : memOf (a ++ b) = memOf a ++ memOf b := by simp [memOf]

theorem memOf_length (b : Bytes) : (memOf b).length = b.length := by simp [memOf]

theorem rdM_nat (m : List Int) (i : Nat) : rdM m (i : Int) = m[i]? := by
  have : ¬ ((i : Int) < 0) := by omega
  simp [rdM, this]

theorem wrM_nat (m : List Int) (i : Nat) (v : Int) (h : i < m.length) : wrM m (i : Int) v = some (m.set i v) := by
  have : ¬ ((i : Int) < 0) := by omega
  simp [wrM, this, h]

theorem rd_nat (d : Bytes) (n : Nat) (h : n < d.length) : rd d (n : Int) = some ((d[n]).toNat : Int) := by
  have : ¬ ((n : Int) < 0) := by omega
  simp [rd, this, h]

/-- the same reads of a `bstr *`, which arrives as `memOf d` and is read with `rdM` -/
theorem rdM_memOf_lt (d : Bytes) (i : Nat) (h : i < d.length) : rdM (memOf d) (i : Int) = some ((d[i]).toNat : Int) := by
  rw [rdM_memOf_eq]; exact rd_nat d i h

theorem rdM_of_drop {d : Bytes} {p : Nat} {x : UInt8} {t : Bytes} (h : d.drop p = x :: t) :
    rdM (memOf d) (p : Int) = some (x.toNat : Int) := by
  rw [rdM_memOf_eq]; exact rd_of_drop h

theorem tolowerI_toNat (x : UInt8) : tolowerI (x.toNat : Int) = ((cTolower x).toNat : Int) := by simp [tolowerI]
theorem toupperI_toNat (x : UInt8) : toupperI (x.toNat : Int) = ((cToupper x).toNat : Int) := by simp [toupperI]

theorem any_dropWhile_not (q : UInt8 → Bool) (l : Bytes) : (l.dropWhile fun x => !q x).any q = l.any q := by
  induction l with
  | nil => rfl
  | cons x t ih => cases hx : q x <;> simp [hx, ih]

/-- `while (more && p(d[i])) i++`, whether the byte test stands in the condition or in the body before a `break`: `R i s` says that `s`
    is a state of the loop at position `i` of `d`. A turn at a byte with `p` leads to a state at `i + 1`; a turn at the end of `d` or at a
    byte without `p` leaves the loop in a state `E i r s'`, `r` being the bytes from `i` on. The loop then stops behind the longest run
    of `p` bytes. -/
theorem scan_loop {σ : Type} {cond : σ → Option Bool} {body incr : Stmt σ} (d : Bytes) (p : UInt8 → Bool) (R : Nat → σ → Prop)
    (E : Nat → Bytes → σ → Prop)
    (hnil : ∀ i s m, R i s → d.drop i = [] → ∃ s', whileF cond body incr (m + 1) s = some (.next s') ∧ E i [] s')
    (hstop : ∀ i s m x t, R i s → d.drop i = x :: t → p x = false →
      ∃ s', whileF cond body incr (m + 1) s = some (.next s') ∧ E i (x :: t) s')
    (hgo : ∀ i s m x t, R i s → d.drop i = x :: t → p x = true →
      ∃ s', whileF cond body incr (m + 1) s = whileF cond body incr m s' ∧ R (i + 1) s') :
    ∀ (a : Bytes) (i n : Nat) (s : σ), d.drop i = a → a.length < n → R i s →
      ∃ s', whileF cond body incr n s = some (.next s') ∧ E (i + (a.takeWhile p).length) (a.dropWhile p) s' := by
  intro a
  induction a with
  | nil =>
    intro i n s ha hn hR
    obtain ⟨m, rfl⟩ := fuel_succ hn
    exact hnil i s m hR ha
  | cons x t ih =>
    intro i n s ha hn hR
    obtain ⟨m, rfl⟩ := fuel_succ hn
    cases hx : p x with
    | false => simpa [List.takeWhile_cons, List.dropWhile_cons, hx] using hstop i s m x t hR ha hx
    | true =>
      obtain ⟨s1, hw, hR1⟩ := hgo i s m x t hR ha hx
      obtain ⟨s', hw', hE⟩ := ih (i + 1) m s1 (drop_succ_of_drop ha) (by simpa using hn) hR1
      refine ⟨s', hw.trans hw', ?_⟩
      simpa [List.takeWhile_cons, List.dropWhile_cons, hx, Nat.add_assoc, Nat.add_comm 1] using hE

end Htp.CFuns
