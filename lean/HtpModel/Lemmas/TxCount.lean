/- C10 (max_tx) over whole histories: the length of the transaction list `c.txs`. Only transaction creation appends to it, and with a
   non-zero `max_tx` creation refuses once more than `max_tx` are held (`growB_txCreate`); `setTx`, `modTx` map over the list,
   `destroyTx` replaces a slot by `none` (the slot stays until htp_connp_tx_freed), which only removes leading empty slots: the
   `GrowB` coordinate of the walk (Lemmas/ConnSweepHist.lean), read out. -/
import HtpModel.Lemmas.ConnSweepHist
namespace Htp.Conn
open Htp Htp.Gen

/-- **C10 (max_tx), whole histories**: with a non-zero `max_tx`, after any history of calls - request and response data chunks of any
    content and chunking, htp_connp_req_close, htp_connp_close, htp_connp_open, htp_connp_tx_freed, in any order and number, under any
    callback policy - the connection holds no more transactions (list entries, destroyed ones included until they are shifted away)
    than the larger of what it started with and `max_tx + 1` -/
theorem history_txs_bounded (cfg : Cfg) (hm : 0 < cfg.maxTx) (c0 : Conn) (calls : List Call) :
    (runCalls cfg c0 calls).txs.length ≤ max c0.txs.length (cfg.maxTx + 1) :=
  ((calls_runCalls cfg c0 calls).len hm).le

theorem history_txs_bounded_prefix (cfg : Cfg) (hm : 0 < cfg.maxTx) (c0 : Conn) (calls pre : List Call) (_hp : pre <+: calls) :
    (runCalls cfg c0 pre).txs.length ≤ max c0.txs.length (cfg.maxTx + 1) :=
  history_txs_bounded cfg hm c0 pre

theorem history_txs_bounded_fresh (cfg : Cfg) (hm : 0 < cfg.maxTx) (calls : List Call) :
    (runCalls cfg {} calls).txs.length ≤ cfg.maxTx + 1 := by
  have h := history_txs_bounded cfg hm {} calls
  have h0 : ({} : Conn).txs.length = 0 := rfl
  rw [h0] at h
  omega

theorem history_txs_bounded_fresh_prefix (cfg : Cfg) (hm : 0 < cfg.maxTx) (calls pre : List Call) (_hp : pre <+: calls) :
    (runCalls cfg {} pre).txs.length ≤ cfg.maxTx + 1 :=
  history_txs_bounded_fresh cfg hm pre

theorem history_txs_bounded_each_call (cfg : Cfg) (hm : 0 < cfg.maxTx) (calls pre : List Call) (call : Call)
    (_hp : pre ++ [call] <+: calls) :
    (runCalls cfg {} pre).txs.length ≤ cfg.maxTx + 1 ∧ (runCall cfg (runCalls cfg {} pre) call).txs.length ≤ cfg.maxTx + 1 := by
  refine ⟨history_txs_bounded_fresh cfg hm pre, ?_⟩
  have := history_txs_bounded_fresh cfg hm (pre ++ [call])
  rw [runCalls_append] at this
  exact this

/-- `max_tx = 2`, four pipelined requests in one chunk: three transactions are created (the list may hold `max_tx + 1`), the fourth
    creation is refused and the call returns HTP_STREAM_ERROR - the list has exactly 3 entries, the bound is attained. Three requests
    pass (STREAM_DATA); without a limit (`max_tx = 0`) the same chunk gives 4 entries. -/
example :
    let rq : Bytes := b!"GET / HTTP/1.1\r\nHost: h\r\n\r\n"
    let cfg : Cfg := { maxTx := 2 }
    let c := runCalls cfg {} [.open]
    let r := reqData cfg (some (rq ++ rq ++ rq ++ rq)) (rq ++ rq ++ rq ++ rq).length c
    r.2 = STREAM_ERROR ∧ r.1.txs.length = 3 ∧ r.1.txs.length = cfg.maxTx + 1 ∧
    (runCalls cfg {} [.open, .req (rq ++ rq ++ rq ++ rq)]).txs.length = 3 ∧
    (reqData cfg (some (rq ++ rq ++ rq)) (rq ++ rq ++ rq).length c).2 = STREAM_DATA ∧
    (runCalls {} {} [.open, .req (rq ++ rq ++ rq ++ rq)]).txs.length = 4 := by decide +kernel

end Htp.Conn
