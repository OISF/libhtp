/- One step of the UTF-8 automaton, `htp_utf8_decode_allow_overlong` (htp_utf8_decoder.c), as translated in
   HtpModel/Gen/CFuns.lean = the hand-written model `Htp.Decode.utf8Dfa` for every byte, every automaton state (0..8) and every
   32-bit code point; the new state is again one of 0..8. -/
import HtpModel.Gen.CFuns
import HtpModel.Util.Decode
namespace Htp.CFuns
open Htp Htp.CSem Htp.Gen.C Htp.Gen Htp.Decode
set_option linter.unusedSimpArgs false
set_option linter.unusedVariables false

theorem utf8d_length : utf8d.length = 400 := by decide +kernel
theorem utf8dAllowOverlong_length : utf8dAllowOverlong.length = 400 := by decide +kernel

/-- an entry of a table passes a test that all `n` entries from `k` on pass (checked by one evaluation) -/
theorem getD_of_all (t : List Nat) (q : Nat → Bool) (k n : Nat) (h : ((t.drop k).take n).all q = true) (i : Nat) (hi : i < n)
    (hl : k + i < t.length) : q (t.getD (k + i) 0) = true := by
  have hl' : i < ((t.drop k).take n).length := by rw [List.length_take, List.length_drop]; omega
  have hm := List.all_eq_true.mp h _ (List.getElem_mem hl')
  rw [List.getElem_take, List.getElem_drop] at hm
  rw [List.getD_eq_getElem?_getD, List.getElem?_eq_getElem hl]
  exact hm

/-- every character class is at most 11, so `256 + state*16 + type` stays inside `utf8d` for state ≤ 8 -/
theorem utf8_type_le (c : UInt8) : utf8dAllowOverlong.getD c.toNat 0 ≤ 11 := by
  have h : ((utf8dAllowOverlong.drop 0).take 256).all (· ≤ 11) = true := by decide +kernel
  simpa using getD_of_all utf8dAllowOverlong (· ≤ 11) 0 256 h c.toNat c.toNat_lt (by rw [utf8dAllowOverlong_length]; have := c.toNat_lt; omega)

/-- the transition part of `utf8d` maps the states 0..8 to the states 0..8 -/
theorem utf8d_trans_le : ∀ i, i < 144 → utf8d.getD (256 + i) 0 ≤ 8 := by
  intro i hi
  have h : ((utf8d.drop 256).take 144).all (· ≤ 8) = true := by decide +kernel
  simpa using getD_of_all utf8d (· ≤ 8) 256 144 h i hi (by rw [utf8d_length]; omega)

theorem rdT_nat (t : List Nat) (n : Nat) (h : n < t.length) : rdT t (n : Int) = some ((t.getD n 0 : Nat) : Int) := by
  unfold rdT
  have : ¬ ((n : Int) < 0) := by omega
  simp [this, h]

theorem or_mod_small (a b : Nat) (ha : a < 64) : (a ||| (b % 4294967296)) = (a ||| b) % 4294967296 := by
  have e : (4294967296 : Nat) = 2 ^ 32 := by decide
  rw [e, Nat.or_mod_two_pow, Nat.mod_eq_of_lt (a := a) (by omega)]

theorem and_lt_256 (a b : Nat) (hb : b < 256) : a &&& b < 256 := Nat.lt_of_le_of_lt Nat.and_le_right hb

theorem bandI_nat (a b : Nat) : bandI (a : Int) (b : Int) = ((a &&& b : Nat) : Int) := by
  unfold bandI; rw [Int.toNat_natCast, Int.toNat_natCast]
theorem borI_nat (a b : Nat) : borI (a : Int) (b : Int) = ((a ||| b : Nat) : Int) := by
  unfold borI; rw [Int.toNat_natCast, Int.toNat_natCast]
theorem shlI_nat (a k : Nat) : shlI (a : Int) (k : Int) = ((a <<< k : Nat) : Int) := by
  unfold shlI; rw [Int.toNat_natCast, Int.toNat_natCast]
theorem shrI_nat (a k : Nat) : shrI (a : Int) (k : Int) = ((a >>> k : Nat) : Int) := by
  unfold shrI; rw [Int.toNat_natCast, Int.toNat_natCast]
theorem u32_nat (n : Nat) (h : n < 4294967296) : u32 (n : Int) = (n : Int) := u32_id (by omega) (by omega)
theorem u32_nat_mod (n : Nat) : u32 (n : Int) = ((n % 4294967296 : Nat) : Int) := by unfold u32; omega

/-- the new `*codep`, both arms of the `?:` -/
theorem utf8_codep_eq (state codep ty : Nat) (byte : UInt8) :
    u32 (if (decide ((state : Int) ≠ 0)) then (borI (bandI (byte.toNat : Int) 63) (u32 (shlI (codep : Int) 6)))
          else (bandI (u32 (shrI 255 (ty : Int))) (byte.toNat : Int)))
      = (((if state != UTF8_ACCEPT then ((byte.toNat &&& 0x3f) ||| (codep <<< 6)) % 4294967296
            else (0xff >>> ty) &&& byte.toNat : Nat)) : Int) := by
  have hb := UInt8.toNat_lt byte
  by_cases h0 : state = 0
  · have h0' : ¬ ((state : Int) ≠ 0) := by omega
    have hle : 255 >>> ty ≤ 255 := by rw [Nat.shiftRight_eq_div_pow]; exact Nat.div_le_self _ _
    have hlt := and_lt_256 (255 >>> ty) byte.toNat (by omega)
    have e1 : bandI (u32 (shrI 255 (ty : Int))) (byte.toNat : Int) = (((255 >>> ty) &&& byte.toNat : Nat) : Int) := by
      have k1 : shrI 255 (ty : Int) = ((255 >>> ty : Nat) : Int) := shrI_nat 255 ty
      rw [k1, u32_nat _ (by omega), bandI_nat]
    rw [if_neg (by simp [h0]), e1, if_neg (by simp [h0, UTF8_ACCEPT])]
    exact u32_nat _ (by omega)
  · have h0' : ((state : Int) ≠ 0) := by omega
    have ha : byte.toNat &&& 63 < 64 := Nat.lt_of_le_of_lt Nat.and_le_right (by omega)
    have e1 : borI (bandI (byte.toNat : Int) 63) (u32 (shlI (codep : Int) 6))
        = ((((byte.toNat &&& 63) ||| (codep <<< 6)) % 4294967296 : Nat) : Int) := by
      have k1 : shlI (codep : Int) 6 = ((codep <<< 6 : Nat) : Int) := shlI_nat codep 6
      have k2 : bandI (byte.toNat : Int) 63 = ((byte.toNat &&& 63 : Nat) : Int) := bandI_nat byte.toNat 63
      rw [← or_mod_small _ _ ha, k1, u32_nat_mod, k2, borI_nat]
    have hne : (state != UTF8_ACCEPT) = true := by simp [UTF8_ACCEPT, h0]
    rw [if_pos (by simp [h0]), e1, if_pos hne]
    exact u32_nat _ (Nat.mod_lt _ (by omega))

theorem utf8_step_eq_any_codep (fuel : Nat) (state codep : Nat) (byte : UInt8) (hs : state ≤ 8) :
    htp_utf8_decode_allow_overlong fuel state codep byte.toNat
      = some (((utf8Dfa state codep byte).1 : Int),
          { state := ((utf8Dfa state codep byte).1 : Int), codep := ((utf8Dfa state codep byte).2 : Int), byte := byte.toNat,
            type := ((utf8dAllowOverlong.getD byte.toNat 0 : Nat) : Int) }) := by
  have hb := UInt8.toNat_lt byte
  have ht := utf8_type_le byte
  generalize htd : utf8dAllowOverlong.getD byte.toNat 0 = ty at ht
  have r1 : rdT utf8dAllowOverlong (byte.toNat : Int) = some ((ty : Nat) : Int) := by
    rw [rdT_nat _ _ (by rw [utf8dAllowOverlong_length]; omega), htd]
  have eidx : u32 ((u32 ((u32 256) + (u32 ((state : Int) * 16)))) + (ty : Int)) = ((256 + state * 16 + ty : Nat) : Int) := by
    unfold u32; omega
  have r2 : rdT utf8d ((256 + state * 16 + ty : Nat) : Int) = some ((utf8d.getD (256 + state * 16 + ty) 0 : Nat) : Int) :=
    rdT_nat _ _ (by rw [utf8d_length]; omega)
  simp only [htp_utf8_decode_allow_overlong, htp_utf8_decode_allow_overlong_stmt, run, seqS, assignS, retS, r1, Option.bind_some,
    Option.map_some, eidx, r2, utf8Dfa, htd, utf8_codep_eq]

/-- the bound `state ≤ 8` is the exact one: in "state" 9 the second read leaves `utf8d` (400 entries) for every byte
    (256 + 9*16 = 400), and the translated function is undefined there -/
theorem utf8_step_state9_undefined (fuel : Nat) (codep : Nat) (byte : UInt8) :
    htp_utf8_decode_allow_overlong fuel 9 codep byte.toNat = none := by
  have hb := UInt8.toNat_lt byte
  have ht := utf8_type_le byte
  generalize htd : utf8dAllowOverlong.getD byte.toNat 0 = ty at ht
  have r1 : rdT utf8dAllowOverlong (byte.toNat : Int) = some ((ty : Nat) : Int) := by
    rw [rdT_nat _ _ (by rw [utf8dAllowOverlong_length]; omega), htd]
  have eidx : u32 ((u32 ((u32 256) + (u32 ((9 : Int) * 16)))) + (ty : Int)) = ((400 + ty : Nat) : Int) := by
    unfold u32; omega
  have r2 : rdT utf8d ((400 + ty : Nat) : Int) = none := by
    unfold rdT
    have : ¬ (((400 + ty : Nat) : Int) < 0) := by omega
    rw [if_neg this, Int.toNat_natCast, List.getElem?_eq_none (by rw [utf8d_length]; omega)]
    rfl
  simp only [htp_utf8_decode_allow_overlong, htp_utf8_decode_allow_overlong_stmt, run, seqS, assignS, retS, r1, Option.bind_some,
    Option.map_some, eidx, r2, Option.bind_none, Option.map_none]

theorem utf8_step_eq_map (fuel : Nat) (state codep : Nat) (byte : UInt8) (hs : state ≤ 8) (hc : codep < 4294967296) :
    (htp_utf8_decode_allow_overlong fuel state codep byte.toNat).map (fun r => (r.1, r.2.state, r.2.codep))
      = some (((utf8Dfa state codep byte).1 : Int), ((utf8Dfa state codep byte).1 : Int), ((utf8Dfa state codep byte).2 : Int)) := by
  rw [utf8_step_eq_any_codep fuel state codep byte hs]; rfl

/-- so the hypothesis of `utf8_step_eq_any_codep` holds at every step of a decoding loop that starts in state 0 (ACCEPT) -/
theorem utf8_step_state_le (state codep : Nat) (byte : UInt8) (hs : state ≤ 8) : (utf8Dfa state codep byte).1 ≤ 8 := by
  have ht := utf8_type_le byte
  simp only [utf8Dfa]
  generalize utf8dAllowOverlong.getD byte.toNat 0 = ty at ht
  have : 256 + state * 16 + ty = 256 + (state * 16 + ty) := by omega
  rw [this]
  exact utf8d_trans_le _ (by omega)

/-- the other half of the loop invariant -/
theorem utf8_step_codep_lt (state codep : Nat) (byte : UInt8) : (utf8Dfa state codep byte).2 < 4294967296 := by
  simp only [utf8Dfa]
  split
  · exact Nat.mod_lt _ (by omega)
  · exact Nat.lt_of_lt_of_le (and_lt_256 _ _ (UInt8.toNat_lt byte)) (by omega)

end Htp.CFuns

