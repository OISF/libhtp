/- STREAM_ERROR is absorbing for each direction over whole call histories (C09: "once a direction has reported ERROR every later call for
   that direction reports the same state and runs no parsing callbacks" - for all byte streams, chunkings, interleavings and callback
   return values). The per-call theorems (Props/C09.lean) cover a data call of the direction that is in error; what a data call of the OTHER
   direction does to that status is in Lemmas/HistoryFrames.lean (`ResCross`, `ReqCross`: the status is not touched, or written under a guard
   that spares ERROR). This file adds htp_connp_close, htp_connp_req_close, htp_connp_open and htp_connp_tx_freed, whole histories, and the
   property in its own words. -/
import HtpModel.Lemmas.Calls
import HtpModel.Lemmas.HistoryFrames
import HtpModel.Lemmas.DriverRule
namespace Htp.Conn
open Htp Htp.Gen

theorem reqData_of_error (cfg : Cfg) (data : Option Bytes) (len : Nat) (c : Conn) (h : c.inn.status = STREAM_ERROR) :
    (reqData cfg data len c).2 = STREAM_ERROR ∧ (reqData cfg data len c).1.events = c.events ∧
    (reqData cfg data len c).1.cbCount = c.cbCount ∧ (reqData cfg data len c).1.inn.status = STREAM_ERROR ∧
    (reqData cfg data len c).1.txs = c.txs := by
  have hes : STREAM_ERROR ≠ STREAM_STOP := by decide
  simp [reqData, reqDataCore, h, hes]

theorem resData_of_error (cfg : Cfg) (data : Option Bytes) (len : Nat) (c : Conn) (h : c.out.status = STREAM_ERROR) :
    (resData cfg data len c).2 = STREAM_ERROR ∧ (resData cfg data len c).1.events = c.events ∧
    (resData cfg data len c).1.cbCount = c.cbCount ∧ (resData cfg data len c).1.out.status = STREAM_ERROR ∧
    (resData cfg data len c).1.txs = c.txs := by
  have hes : STREAM_ERROR ≠ STREAM_STOP := by decide
  simp [resData, resDataCore, h, hes]

theorem runCall_keeps_inn_error (cfg : Cfg) (c : Conn) (call : Call) (h : c.inn.status = STREAM_ERROR) :
    (runCall cfg c call).inn.status = STREAM_ERROR :=
  runCall_inv_of_parts (G := fun _ => True) (I := fun c => c.inn.status = STREAM_ERROR) (fun c s _ h => by
    cases s with
    | req data len => exact (reqData_of_error cfg _ _ c h).2.2.2.1
    | res data len => exact (resCross_resData cfg _ _ c).2 h
    | markIn => exact markClosedIn_cases (P := fun x => x.inn.status = STREAM_ERROR) c (fun _ => h) fun ne => absurd h ne
    | markOut => exact markClosedOut_cases (P := fun x => x.inn.status = STREAM_ERROR) c (fun _ => h) fun _ => h
    | «open» => show (connOpen c).inn.status = _; rw [connOpen_of_ne c (Or.inl (by rw [h]; decide))]; exact h
    | txFreed => show (txFreed c).1.inn.status = _; rw [(txFreed_dirs c).1]; exact h) c call (fun _ _ => trivial) h

theorem runCall_keeps_out_error (cfg : Cfg) (c : Conn) (call : Call) (h : c.out.status = STREAM_ERROR) :
    (runCall cfg c call).out.status = STREAM_ERROR :=
  runCall_inv_of_parts (G := fun _ => True) (I := fun c => c.out.status = STREAM_ERROR) (fun c s _ h => by
    cases s with
    | req data len => exact (reqCross_reqData cfg _ _ c).2 h
    | res data len => exact (resData_of_error cfg _ _ c h).2.2.2.1
    | markIn => exact markClosedIn_cases (P := fun x => x.out.status = STREAM_ERROR) c (fun _ => h) fun _ => h
    | markOut => exact markClosedOut_cases (P := fun x => x.out.status = STREAM_ERROR) c (fun _ => h) fun ne => absurd h ne
    | «open» => show (connOpen c).out.status = _; rw [connOpen_of_ne c (Or.inr (by rw [h]; decide))]; exact h
    | txFreed => show (txFreed c).1.out.status = _; rw [(txFreed_dirs c).2.1]; exact h) c call (fun _ _ => trivial) h

theorem history_error_sticky_req (cfg : Cfg) (c0 : Conn) (calls : List Call) (h : c0.inn.status = STREAM_ERROR) :
    (runCalls cfg c0 calls).inn.status = STREAM_ERROR :=
  runCalls_inv (G := fun _ => True) (fun c call _ => runCall_keeps_inn_error cfg c call) c0 calls (fun _ _ => trivial) h

theorem history_error_sticky_res (cfg : Cfg) (c0 : Conn) (calls : List Call) (h : c0.out.status = STREAM_ERROR) :
    (runCalls cfg c0 calls).out.status = STREAM_ERROR :=
  runCalls_inv (G := fun _ => True) (fun c call _ => runCall_keeps_out_error cfg c call) c0 calls (fun _ _ => trivial) h

/-! ### a data call that RETURNS STREAM_ERROR has recorded it

    Every path of htp_connp_req_data / htp_connp_res_data that returns HTP_STREAM_ERROR writes it to in_status / out_status first. The model
    has one more path: its driver loop carries a fuel counter (8 * len + 64 passes), and running out of it returns STREAM_ERROR with the
    marker `unsupported := true` ("the run entered behaviour the model does not cover") and WITHOUT a status write. That path has no
    counterpart in the C (its `for (;;)` has no counter), so the statement is: ERROR returned => ERROR recorded, or the model gave up. -/

theorem reqData_error_recorded (cfg : Cfg) (data : Option Bytes) (len : Nat) (c : Conn)
    (h : (reqData cfg data len c).2 = STREAM_ERROR) :
    (reqData cfg data len c).1.inn.status = STREAM_ERROR ∨ (reqData cfg data len c).1.unsupported = true := by
  rw [reqData_eq] at h ⊢
  exact reqDataCore_cases (P := fun r => r.2 = STREAM_ERROR → r.1.inn.status = STREAM_ERROR ∨ r.1.unsupported = true) cfg data len c
    (fun _ => returned_error_elim _ _ _ (by decide)) (fun he _ => .inl he) (fun _ _ _ => .inl rfl) (fun _ _ => returned_error_elim _ _ _ (by decide))
    (fun _ _ => returned_error_elim _ _ _ (by decide)) (fun _ _ _ _ => (reqDriverLoop_is cfg _).error_recorded _ _) h

theorem resData_error_recorded (cfg : Cfg) (data : Option Bytes) (len : Nat) (c : Conn)
    (h : (resData cfg data len c).2 = STREAM_ERROR) :
    (resData cfg data len c).1.out.status = STREAM_ERROR ∨ (resData cfg data len c).1.unsupported = true := by
  rw [resData_eq] at h ⊢
  exact resDataCore_cases (P := fun r => r.2 = STREAM_ERROR → r.1.out.status = STREAM_ERROR ∨ r.1.unsupported = true) cfg data len c
    (fun _ => returned_error_elim _ _ _ (by decide)) (fun he _ => .inl he) (fun _ _ _ => .inl rfl) (fun _ _ => returned_error_elim _ _ _ (by decide))
    (fun _ _ => returned_error_elim _ _ _ (by decide)) (fun _ _ _ _ => (resDriverLoop_is cfg _).error_recorded _ _) h

/-- **C09, request direction, over whole histories**: from ANY start state `c0`, after ANY calls `pre`, let the request data call with chunk
    `d` return STREAM_ERROR (and the model not have given up in it). Then after ANY further calls `mid` - of either direction, closes, open,
    tx_freed, in any order and number - every request data call (any chunk, a gap, the NULL chunk of a close) returns STREAM_ERROR again and
    runs no callback: the event log and the callback counter are unchanged. -/
theorem history_error_then_error_req (cfg : Cfg) (c0 : Conn) (pre mid : List Call) (d : Bytes)
    (herr : (reqData cfg (some d) d.length (runCalls cfg c0 pre)).2 = STREAM_ERROR)
    (hsup : (reqData cfg (some d) d.length (runCalls cfg c0 pre)).1.unsupported = false)
    (data : Option Bytes) (len : Nat) :
    (reqData cfg data len (runCalls cfg c0 (pre ++ [.req d] ++ mid))).2 = STREAM_ERROR ∧
    (reqData cfg data len (runCalls cfg c0 (pre ++ [.req d] ++ mid))).1.events = (runCalls cfg c0 (pre ++ [.req d] ++ mid)).events ∧
    (reqData cfg data len (runCalls cfg c0 (pre ++ [.req d] ++ mid))).1.cbCount = (runCalls cfg c0 (pre ++ [.req d] ++ mid)).cbCount ∧
    (runCalls cfg c0 (pre ++ [.req d] ++ mid)).inn.status = STREAM_ERROR := by
  have h1 : (runCalls cfg c0 (pre ++ [.req d])).inn.status = STREAM_ERROR := by
    rw [runCalls_snoc]
    exact (reqData_error_recorded cfg _ _ _ herr).resolve_right (by rw [hsup]; decide)
  have h2 : (runCalls cfg c0 (pre ++ [.req d] ++ mid)).inn.status = STREAM_ERROR := by
    rw [runCalls_append]; exact history_error_sticky_req cfg _ mid h1
  obtain ⟨a, b, c, _, _⟩ := reqData_of_error cfg data len _ h2
  exact ⟨a, b, c, h2⟩

theorem history_error_sticky_req_positions (cfg : Cfg) (c0 : Conn) (calls pre mid : List Call) (d d' : Bytes)
    (_hp : pre ++ [.req d] ++ mid ++ [.req d'] <+: calls)
    (herr : (reqData cfg (some d) d.length (runCalls cfg c0 pre)).2 = STREAM_ERROR)
    (hsup : (reqData cfg (some d) d.length (runCalls cfg c0 pre)).1.unsupported = false) :
    (reqData cfg (some d') d'.length (runCalls cfg c0 (pre ++ [.req d] ++ mid))).2 = STREAM_ERROR ∧
    (runCalls cfg c0 (pre ++ [.req d] ++ mid ++ [.req d'])).events = (runCalls cfg c0 (pre ++ [.req d] ++ mid)).events ∧
    (runCalls cfg c0 (pre ++ [.req d] ++ mid ++ [.req d'])).cbCount = (runCalls cfg c0 (pre ++ [.req d] ++ mid)).cbCount := by
  obtain ⟨a, b, c, _⟩ := history_error_then_error_req cfg c0 pre mid d herr hsup (some d') d'.length
  rw [runCalls_snoc]
  exact ⟨a, b, c⟩

theorem history_error_then_error_reqClose (cfg : Cfg) (c0 : Conn) (pre mid : List Call) (d : Bytes)
    (herr : (reqData cfg (some d) d.length (runCalls cfg c0 pre)).2 = STREAM_ERROR)
    (hsup : (reqData cfg (some d) d.length (runCalls cfg c0 pre)).1.unsupported = false) :
    (reqClose cfg (runCalls cfg c0 (pre ++ [.req d] ++ mid))).2 = STREAM_ERROR ∧
    (reqClose cfg (runCalls cfg c0 (pre ++ [.req d] ++ mid))).1.events = (runCalls cfg c0 (pre ++ [.req d] ++ mid)).events ∧
    (reqClose cfg (runCalls cfg c0 (pre ++ [.req d] ++ mid))).1.cbCount = (runCalls cfg c0 (pre ++ [.req d] ++ mid)).cbCount := by
  obtain ⟨a, b, c, e⟩ := history_error_then_error_req cfg c0 pre mid d herr hsup none 0
  rw [reqClose_eq, markClosedIn_cases (P := fun x => x = _) _ (fun _ => rfl) fun ne => absurd e ne]
  exact ⟨a, b, c⟩

theorem history_error_then_error_res (cfg : Cfg) (c0 : Conn) (pre mid : List Call) (d : Bytes)
    (herr : (resData cfg (some d) d.length (runCalls cfg c0 pre)).2 = STREAM_ERROR)
    (hsup : (resData cfg (some d) d.length (runCalls cfg c0 pre)).1.unsupported = false)
    (data : Option Bytes) (len : Nat) :
    (resData cfg data len (runCalls cfg c0 (pre ++ [.res d] ++ mid))).2 = STREAM_ERROR ∧
    (resData cfg data len (runCalls cfg c0 (pre ++ [.res d] ++ mid))).1.events = (runCalls cfg c0 (pre ++ [.res d] ++ mid)).events ∧
    (resData cfg data len (runCalls cfg c0 (pre ++ [.res d] ++ mid))).1.cbCount = (runCalls cfg c0 (pre ++ [.res d] ++ mid)).cbCount ∧
    (runCalls cfg c0 (pre ++ [.res d] ++ mid)).out.status = STREAM_ERROR := by
  have h1 : (runCalls cfg c0 (pre ++ [.res d])).out.status = STREAM_ERROR := by
    rw [runCalls_snoc]
    exact (resData_error_recorded cfg _ _ _ herr).resolve_right (by rw [hsup]; decide)
  have h2 : (runCalls cfg c0 (pre ++ [.res d] ++ mid)).out.status = STREAM_ERROR := by
    rw [runCalls_append]; exact history_error_sticky_res cfg _ mid h1
  obtain ⟨a, b, c, _, _⟩ := resData_of_error cfg data len _ h2
  exact ⟨a, b, c, h2⟩

/-- the request side errs on an invalid chunk-length line (a parse error, default configuration, no callback policy); the model did not give
    up; the response side then parses a whole response and runs 8 callbacks; htp_connp_tx_freed; the next request chunk is answered with
    STREAM_ERROR and the event log stays as it was; so it does through htp_connp_req_close and htp_connp_close -/
example :
    let bad : Bytes := b!"POST / HTTP/1.1\r\nTransfer-Encoding: chunked\r\n\r\nzz\r\n"
    let resp : Bytes := b!"HTTP/1.1 200 OK\r\nContent-Length: 2\r\n\r\nok"
    let next : Bytes := b!"GET / HTTP/1.1\r\n\r\n"
    let pre : List Call := [.open]
    let mid : List Call := [.res resp, .txFreed]
    let c1 := runCalls {} {} (pre ++ [.req bad] ++ mid)
    (reqData {} (some bad) bad.length (runCalls {} {} pre)).2 = STREAM_ERROR ∧
    (reqData {} (some bad) bad.length (runCalls {} {} pre)).1.unsupported = false ∧
    (runCalls {} {} (pre ++ [.req bad])).events.length = 5 ∧
    (resData {} (some resp) resp.length (runCalls {} {} (pre ++ [.req bad]))).2 = STREAM_DATA ∧
    c1.events.length = 13 ∧ c1.inn.status = STREAM_ERROR ∧ c1.out.status = STREAM_DATA ∧
    (reqData {} (some next) next.length c1).2 = STREAM_ERROR ∧ (reqData {} (some next) next.length c1).1.events = c1.events ∧
    (runCalls {} {} (pre ++ [.req bad] ++ mid ++ [.req next, .reqClose, .close])).inn.status = STREAM_ERROR ∧
    (runCalls {} {} (pre ++ [.req bad] ++ mid ++ [.req next, .reqClose, .close])).events.length = 13 := by decide +kernel

/-- the same with a callback that returns an error: the second callback invocation of the connection (REQUEST_URI_NORMALIZE) answers
    HTP_ERROR, the request data call returns STREAM_ERROR, the response direction goes on, the request direction stays in ERROR -/
example :
    let c0 : Conn := { policy := [(1, .error)] }
    let g : Bytes := b!"GET / HTTP/1.1\r\n"
    let resp : Bytes := b!"HTTP/1.1 200 OK\r\n\r\n"
    let c1 := runCalls {} c0 [.open, .req g, .res resp]
    (reqData {} (some g) g.length (runCalls {} c0 [.open])).2 = STREAM_ERROR ∧
    (resData {} (some resp) resp.length (runCalls {} c0 [.open, .req g])).2 = STREAM_DATA ∧
    c1.events.length = 6 ∧ c1.inn.status = STREAM_ERROR ∧
    (reqData {} (some g) g.length c1).2 = STREAM_ERROR ∧ (reqData {} (some g) g.length c1).1.cbCount = c1.cbCount := by decide +kernel

/-- the response side errs (multipart/byteranges without a Content-Length); the request side goes on (a second request, 6 more callbacks,
    then htp_connp_req_close); every later response chunk and htp_connp_close find the response direction in ERROR and run no callback -/
example :
    let rq : Bytes := b!"GET / HTTP/1.1\r\nHost: a\r\n\r\n"
    let badr : Bytes := b!"HTTP/1.1 200 OK\r\nContent-Type: multipart/byteranges\r\n\r\n"
    let pre : List Call := [.open, .req rq]
    let mid : List Call := [.req rq, .reqClose]
    let c1 := runCalls {} {} (pre ++ [.res badr] ++ mid)
    (resData {} (some badr) badr.length (runCalls {} {} pre)).2 = STREAM_ERROR ∧
    (resData {} (some badr) badr.length (runCalls {} {} pre)).1.unsupported = false ∧
    (runCalls {} {} (pre ++ [.res badr])).events.length = 8 ∧
    (reqData {} (some rq) rq.length (runCalls {} {} (pre ++ [.res badr]))).2 = STREAM_DATA ∧
    c1.events.length = 14 ∧ c1.out.status = STREAM_ERROR ∧
    (resData {} (some badr) badr.length c1).2 = STREAM_ERROR ∧ (resData {} (some badr) badr.length c1).1.events = c1.events ∧
    (runCalls {} {} (pre ++ [.res badr] ++ mid ++ [.res badr, .close])).out.status = STREAM_ERROR ∧
    (runCalls {} {} (pre ++ [.res badr] ++ mid ++ [.res badr, .close])).events.length = 14 := by decide +kernel

/-- the two guarded writes spare ERROR but nothing else of the kind: a refused CONNECT takes a request direction that waits in DATA_OTHER
    back to DATA, and leaves one in ERROR alone -/
example :
    let t : Tx := { uid := 0, methodNumber := M_CONNECT }
    (resRefusedConnect t { inn := { status := STREAM_DATA_OTHER } }).inn.status = STREAM_DATA ∧
    (resRefusedConnect t { inn := { status := STREAM_ERROR } }).inn.status = STREAM_ERROR ∧
    (resSwitchTunnel { inn := { status := STREAM_DATA } }).inn.status = STREAM_TUNNEL ∧
    (resSwitchTunnel { inn := { status := STREAM_ERROR } }).inn.status = STREAM_ERROR := by decide

/-- the one path on which ERROR is returned and not recorded is the model's own fuel counter: out of fuel, the driver loop answers
    STREAM_ERROR, marks the run as outside the model and writes no status (the disjunct `unsupported = true` of `reqData_error_recorded`
    is weaker than that: the marker has other writers) -/
example :
    (reqDriverLoop {} false 0 {}).2 = STREAM_ERROR ∧ (reqDriverLoop {} false 0 {}).1.inn.status = STREAM_NEW ∧
    (reqDriverLoop {} false 0 {}).1.unsupported = true := by decide

end Htp.Conn
