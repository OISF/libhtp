/- What a function of one direction leaves alone, stated once per direction and proved by one walk over that direction's functions.
   `ResFrame c c'` (response-direction functions below the driver): the request direction's record - but for a tx reference a callback may
   clear -, the request parser's state and the response direction's own stream status are the same in `c'` as in `c`. `ReqFrame` is the
   mirror image for the request-direction functions. The frames are not kept by the exceptions: `resRefusedConnect`, `resSwitchTunnel`,
   `resExpectShortcut` and RES_IDLE (which runs request-side code) on the response side, `reqConnectCheck`, the tunnel branch of
   `reqConnectProbeLoop` and `reqWakeOther` on the request side. The views the history theorems need (`KeepIV`, `KeepOV`, `KeepISt`,
   `KeepU`, ...) are projections of the two relations (Lemmas/HistoryFrames.lean). -/
import HtpModel.Lemmas.StateWalkOut
namespace Htp.Conn
open Htp Htp.Gen

@[reducible] def ReqFrame (c c' : Conn) : Prop :=
  (c'.out.eraseTx, c'.outState, c'.inn.status) = (c.out.eraseTx, c.outState, c.inn.status)

theorem ReqFrame.trans {a b c : Conn} (h1 : ReqFrame a b) (h2 : ReqFrame b c) : ReqFrame a c := Eq.trans h2 h1
theorem ReqFrame.out {c c' : Conn} (h : ReqFrame c c') : c'.out.eraseTx = c.out.eraseTx := congrArg (·.1) h
theorem ReqFrame.outState {c c' : Conn} (h : ReqFrame c c') : c'.outState = c.outState := congrArg (·.2.1) h
theorem ReqFrame.innStatus {c c' : Conn} (h : ReqFrame c c') : c'.inn.status = c.inn.status := congrArg (·.2.2) h
theorem ReqFrame.outStatus {c c' : Conn} (h : ReqFrame c c') : c'.out.status = c.out.status := congrArg (·.status) h.out

theorem ReqFrame.setInn {c : Conn} {d : Dir} (h : d.status = c.inn.status) : ReqFrame c { c with inn := d } := by
  show (c.out.eraseTx, c.outState, d.status) = (c.out.eraseTx, c.outState, c.inn.status)
  rw [h]

theorem ReqFrame.of_quiet {c c' : Conn} (h : ReqQuiet c c') : ReqFrame c c' :=
  congrArg (fun v : Dir × Dir × ResState => (v.2.1, v.2.2, v.1.status)) h

theorem reqFrame_reqReceiverSend (l : Bool) (c : Conn) : ReqFrame c (reqReceiverSend l c).1 := .of_quiet (reqTx_reqReceiverSend l c).1
theorem reqFrame_reqReceiverSet (h : Hook) (c : Conn) : ReqFrame c (reqReceiverSet h c).1 := .of_quiet (reqTx_reqReceiverSet h c).1
theorem reqFrame_txStateRequestComplete (cfg : Cfg) (uid : Nat) (c : Conn) : ReqFrame c (txStateRequestComplete cfg uid c).1 :=
  .of_quiet (reqTx_txStateRequestComplete cfg uid c).1

theorem reqFrame_txCreate (cfg : Cfg) (c : Conn) : ReqFrame c (txCreate cfg c).1 := by
  unfold txCreate
  simp only []
  split <;> exact rfl

/-- `ReqRel`, not `ReqRelS`: REQ_CONNECT_CHECK and the tunnel switch of REQ_CONNECT_PROBE_DATA write a stream status -/
theorem reqRel_reqFrame (cfg : Cfg) : ReqRel cfg False (fun _ => True) ReqFrame where
  toReqFnRel := (reqTx_fn _).mono (fun t => .of_quiet t.1) ReqFrame.trans
  same h := (congrArg (fun x : Conn => (x.out.eraseTx, x.outState, x.inn.status)) h :)
  flag09 _ := rfl
  cursor h := .setInn (congrArg Dir.status h.frame :)
  txCreate := reqFrame_txCreate cfg

@[reducible] def ResFrame (c c' : Conn) : Prop :=
  (c'.inn.eraseTx, c'.inState, c'.out.status) = (c.inn.eraseTx, c.inState, c.out.status)

theorem ResFrame.trans {a b c : Conn} (h1 : ResFrame a b) (h2 : ResFrame b c) : ResFrame a c := Eq.trans h2 h1
theorem ResFrame.inn {c c' : Conn} (h : ResFrame c c') : c'.inn.eraseTx = c.inn.eraseTx := congrArg (·.1) h
theorem ResFrame.inState {c c' : Conn} (h : ResFrame c c') : c'.inState = c.inState := congrArg (·.2.1) h
theorem ResFrame.outStatus {c c' : Conn} (h : ResFrame c c') : c'.out.status = c.out.status := congrArg (·.2.2) h
theorem ResFrame.innStatus {c c' : Conn} (h : ResFrame c c') : c'.inn.status = c.inn.status := congrArg (·.status) h.inn

theorem ResFrame.setOut {c : Conn} {d : Dir} (h : d.status = c.out.status) : ResFrame c { c with out := d } := by
  show (c.inn.eraseTx, c.inState, d.status) = (c.inn.eraseTx, c.inState, c.out.status)
  rw [h]

theorem ResFrame.of_quiet {c c' : Conn} (h : ResQuiet c c') : ResFrame c c' :=
  congrArg (fun v : (Nat × Bytes × Bool × Int × Int × Int × Option Bytes) × Dir × ReqState × Int => (v.2.1, v.2.2.1, v.1.1)) h

theorem resFrame_resReceiverSend (l : Bool) (c : Conn) : ResFrame c (resReceiverSend l c).1 := .of_quiet (resTx_resReceiverSend l c).1
theorem resFrame_txStateResponseHeaders (cfg : Cfg) (uid : Nat) (c : Conn) : ResFrame c (txStateResponseHeaders cfg uid c).1 :=
  .of_quiet (resTx_txStateResponseHeaders cfg uid c).1
theorem resFrame_txStateResponseCompleteEx (cfg : Cfg) (uid : Nat) (c : Conn) : ResFrame c (txStateResponseCompleteEx cfg uid c).1 :=
  .of_quiet (resTx_txStateResponseCompleteEx cfg uid c).1
theorem resFrame_txStateResponseStart (uid : Nat) (c : Conn) : ResFrame c (txStateResponseStart uid c).1 :=
  .of_quiet (resTx_txStateResponseStart uid c).1
theorem resFrame_resNoBody (uid : Nat) (t : Tx) (te cl : Option Parse.Header) (c : Conn) : ResFrame c (resNoBody uid t te cl c) :=
  .of_quiet (walk_resNoBody (resTx_fn fun _ => True) uid t te cl c).1
theorem resFrame_resFramingStep (uid : Nat) (t : Tx) (te cl : Option Parse.Header) (c : Conn) :
    ResFrame c (resFramingStep uid t te cl c).1 := .of_quiet (walk_resFramingStep (resTx_fn fun _ => True) uid t te cl c fun _ => trivial).1

/-- `ResRel`, not `ResRelS`: RES_IDLE and RES_BODY_DETERMINE touch the request direction -/
theorem resRel_resFrame (cfg : Cfg) : ResRel cfg False (fun _ => True) ResFrame where
  toResFnRel := (resTx_fn _).mono (fun t => .of_quiet t.1) ResFrame.trans
  same h := (congrArg (fun x : Conn => (x.inn.eraseTx, x.inState, x.out.status)) h :)
  cursor h := .setOut (congrArg Dir.status h.frame :)
  unread h _ _ := .setOut (congrArg Dir.status h :)

end Htp.Conn
