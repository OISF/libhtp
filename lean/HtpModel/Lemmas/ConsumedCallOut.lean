/- THE WHOLE CALL of the response direction (Lemmas/ConsumedOut.lean is one state function at a time): what a pass and the end of the call
   do with the state function's answer, and 'DATA means the whole chunk was consumed' for htp_connp_res_data, by the rule of the driver
   loop along `CallReachO` under the loop invariant `WFBO` (Lemmas/BufInvOut.lean). The request direction: Lemmas/ConsumedCall.lean. -/
import HtpModel.Lemmas.ConsumedOut
namespace Htp.Conn
open Htp Htp.Gen

theorem ResEnds.read_len {cfg : Cfg} {c : Conn} {rc : Rc} {r : Conn × Nat} (h : ResEnds cfg c rc r) :
    r.1.out.read = c.out.read ∧ r.1.out.len = c.out.len := by
  obtain ⟨c3, d, s, h3, hd, _, rfl, _⟩ := h
  have k3 : c3.out.read = c.out.read ∧ c3.out.len = c.out.len := by
    rcases h3 with rfl | rfl
    · exact ⟨rfl, rfl⟩
    · have k := KeepO.of_quiet (resTx_resReceiverSend false c).1
      exact ⟨k.1.1, k.1.2.1⟩
  rcases hd with rfl | hb
  · exact k3
  · exact ⟨(Dir.buffer_read_len hb).1.trans k3.1, (Dir.buffer_read_len hb).2.trans k3.2⟩

theorem ResEnds.of_data {cfg : Cfg} {c : Conn} {rc : Rc} {r : Conn × Nat} (h : ResEnds cfg c rc r) (hd : rc = Rc.data ∨ rc = Rc.dataBuffer) :
    (r.2 = STREAM_DATA ∨ r.2 = STREAM_ERROR) ∧ r.1.out.read = c.out.read ∧ r.1.out.len = c.out.len := by
  refine ⟨?_, h.read_len⟩
  obtain ⟨c3, d, s, _, _, _, rfl, ⟨_, _, hs⟩ | ⟨n1, n2, _⟩⟩ := h
  · exact hs
  · exact absurd hd (fun x => x.elim n1 n2)

theorem resPass_of_ne_ok (cfg : Cfg) (c : Conn) (h : (resStateFn cfg c).2 ≠ Rc.ok) : resPass cfg c = resStateFn cfg c := by
  unfold resPass resPassHook
  rw [if_neg (by simpa using h)]

theorem noData_resReceiverSet (h : Hook) (c : Conn) : NoData (resReceiverSet h c).2 := by
  unfold resReceiverSet
  simp only
  exact noData_resReceiverFinalizeClear c

theorem noData_resHandleStateChange (c : Conn) : NoData (resHandleStateChange c).2 := by
  unfold resHandleStateChange
  split
  · exact NoData.ok
  · simp only
    apply noData_andThen
    · -- which receiver is installed depends on the two states: each branch is a hand-over, HTP_OK or HTP_ERROR
      repeat' split
      all_goals first | exact NoData.ok | exact NoData.error | exact noData_resReceiverSet _ _
    · intro c1; exact NoData.ok

theorem resPassHook_data (c : Conn) (rc : Rc) (h : (resPassHook c rc).2 = Rc.data ∨ (resPassHook c rc).2 = Rc.dataBuffer) :
    resPassHook c rc = (c, rc) := by
  unfold resPassHook at h ⊢
  split
  · rw [if_pos (by assumption)] at h
    split
    · rw [if_pos (by assumption)] at h
      rcases h with h | h <;> cases h
    · rw [if_neg (by assumption)] at h
      have hn := noData_resHandleStateChange c
      rcases h with h | h
      · exact absurd h hn.1
      · exact absurd h hn.2
  · rfl

theorem ResEnds.data {cfg : Cfg} {c : Conn} {rc : Rc} {r : Conn × Nat} (h : ResEnds cfg c rc r) (hs : r.2 = STREAM_DATA)
    (hc : (rc = Rc.data ∨ rc = Rc.dataBuffer) → c.out.len ≤ c.out.read) : r.1.out.len ≤ r.1.out.read := by
  rw [h.read_len.1, h.read_len.2]
  obtain ⟨c3, d, s, _, _, _, rfl, ⟨hd, _⟩ | ⟨_, _, _, _, h1, _⟩⟩ := h
  · exact hc hd
  · exact h1 hs

theorem resDriverLoop_data_consumed (cfg : Cfg) (fuel : Nat) (c0 c : Conn) (hr : CallReachO cfg c0 c) (w : WFBO cfg.fieldLimitHard c.out)
    (ho : ∀ c', CallReachO cfg c0 c' → OwedPosO c')
    (hdata : (resDriverLoop cfg false fuel c).2 = STREAM_DATA) :
    (resDriverLoop cfg false fuel c).1.out.len ≤ (resDriverLoop cfg false fuel c).1.out.read :=
  have K := resRelS_inv (cfg := cfg) (dirInvO_wfbo cfg.fieldLimitHard)
  (resDriverLoop_is cfg false).rule (I := fun c => CallReachO cfg c0 c ∧ WFBO cfg.fieldLimitHard c.out)
    (Q := fun r => r.2 = STREAM_DATA → r.1.out.len ≤ r.1.out.read)
    (fun _ _ e => absurd e (show STREAM_ERROR ≠ STREAM_DATA by decide)) (fun _ _ e => absurd e (show STREAM_CLOSED ≠ STREAM_DATA by decide))
    (fun c r h hs => by
      cases resStep_false hs
      have hoc := ho c h.1
      have wp : WFBO cfg.fieldLimitHard (resPass cfg c).1.out :=
        walk_resPassHook K.toResFnRel _ _ (wfboOut_resStateFn cfg c h.2 (owedOKO_of_pos hoc).1 (owedOKO_of_pos hoc).2)
      refine ⟨fun _ _ e => absurd e (show STREAM_TUNNEL ≠ STREAM_DATA by decide),
        fun hok ht => ⟨h.1.pass hok (beq_eq_false_iff_ne.mpr ht), wp⟩, fun _ _ e hd => ?_⟩
      refine e.data hd fun hdd => ?_
      have e := resPassHook_data _ _ hdd
      rw [e] at hdd ⊢
      exact consumedOut_resStateFn_inv cfg (dirInvO_wfbo _).toDirInv (fun _ w => Dir.peek_none w.1.r0 w.1.lc) c (fun _ => h.2) hoc.1 hoc.2 hdd)
    fuel c ⟨hr, w⟩ hdata

/-- **DATA means the whole chunk was consumed, for a whole response data call**: htp_connp_res_data on any state and any chunk of data that
    returns HTP_STREAM_DATA leaves the read cursor exactly at the end of the chunk - provided the line buffer was within the limit (the
    invariant carried from call to call) and every pass of the call finds the counted body states still owing bytes -/
theorem resData_data_consumed (cfg : Cfg) (d : Bytes) (c : Conn) (hs : (d.length : Int) < 18446744073709551616)
    (hb : outBufLen c ≤ cfg.fieldLimitHard)
    (ho : ∀ c', CallReachO cfg (resStoreChunk (some d) d.length c) c' → OwedPosO c')
    (hdata : (resData cfg (some d) d.length c).2 = STREAM_DATA) :
    (resData cfg (some d) d.length c).1.out.read = (resData cfg (some d) d.length c).1.out.len := by
  rw [resData_eq] at hdata ⊢
  revert hdata
  show (resDataCore cfg (some d) d.length c).2 = STREAM_DATA →
    (resDataCore cfg (some d) d.length c).1.out.read = (resDataCore cfg (some d) d.length c).1.out.len
  -- only the loop can answer STREAM_DATA
  have other (c' : Conn) {rc : Nat} (hrc : rc ≠ STREAM_DATA) : (c', rc).2 = STREAM_DATA → c'.out.read = c'.out.len :=
    fun h => absurd h hrc
  refine resDataCore_cases (P := fun r => r.2 = STREAM_DATA → r.1.out.read = r.1.out.len) cfg _ _ c
    (fun _ => other _ (by decide)) (fun _ => other _ (by decide)) (fun _ _ => other _ (by decide))
    (fun _ _ => other _ (by decide)) (fun _ _ => other _ (by decide)) fun _ _ _ _ hdata => ?_
  have wst := wfbo_resStoreChunk cfg.fieldLimitHard d c hs hb
  have hc := resDriverLoop_data_consumed cfg _ _ _ CallReachO.start wst ho hdata
  have hw := (resDriverLoop_wfbo cfg (8 * d.length + 64) _ _ CallReachO.start wst (fun c' h => owedOKO_of_pos (ho c' h))).1.rl
  exact Int.le_antisymm hw hc

end Htp.Conn
