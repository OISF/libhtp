/- Who writes TUNNEL into a stream status: the pair invariant `TunnelPair`, kept by every data call (over histories and for
   the fresh parser: `history_tunnelPair`, `tunnelPair_fresh`, Lemmas/HistoryTunnel.lean). Every function below the two drivers keeps both statuses (the frames of
   Lemmas/DirFrames.lean, `keepU_resIdle` and `keepU_resExpectShortcut`), except four: `reqConnectCheck` (request: DATA_OTHER), the tunnel
   branch of `reqConnectProbeLoop` (both: TUNNEL, a response status ERROR / STOP stays), `resRefusedConnect` (request: DATA unless ERROR /
   STOP) and `resSwitchTunnel` (both: TUNNEL, a request status ERROR / STOP stays). So a direction is in TUNNEL only while the other one
   does not parse (`TunnelPair`), after every data call. -/
import HtpModel.Lemmas.HistoryFrames
namespace Htp.Conn
open Htp Htp.Gen

/-- a stream status on which a data call returns before it parses anything: TUNNEL, ERROR, STOP -/
def Quiet (s : Nat) : Prop := s = STREAM_TUNNEL ∨ s = STREAM_ERROR ∨ s = STREAM_STOP

instance (s : Nat) : Decidable (Quiet s) := by unfold Quiet; infer_instance

/-- **the pair invariant**: a direction is in TUNNEL only while the other direction does not parse (TUNNEL, ERROR or STOP). The two
    places that switch to tunnel mode - the CONNECT probe and the 101 switch - write both directions, and nothing else writes TUNNEL. -/
def TunnelPair (c : Conn) : Prop :=
  (c.inn.status = STREAM_TUNNEL → Quiet c.out.status) ∧ (c.out.status = STREAM_TUNNEL → Quiet c.inn.status)

instance (c : Conn) : Decidable (TunnelPair c) := by unfold TunnelPair; infer_instance

theorem data_ne_tunnel : STREAM_DATA ≠ STREAM_TUNNEL := by decide
theorem dataOther_ne_tunnel : STREAM_DATA_OTHER ≠ STREAM_TUNNEL := by decide
theorem error_ne_tunnel : STREAM_ERROR ≠ STREAM_TUNNEL := by decide

/-- neither direction is in tunnel mode -/
def NoTun (c : Conn) : Prop := c.inn.status ≠ STREAM_TUNNEL ∧ c.out.status ≠ STREAM_TUNNEL

theorem NoTun.pair {c : Conn} (h : NoTun c) : TunnelPair c := ⟨fun e => absurd e h.1, fun e => absurd e h.2⟩
theorem NoTun.keep {c c' : Conn} (h : NoTun c) (k : KeepU c c') : NoTun c' := ⟨by rw [k.inn]; exact h.1, by rw [k.out]; exact h.2⟩

/-- what a request state function does to the statuses when neither direction is in TUNNEL: it sets no TUNNEL, or it is the CONNECT probe
    switching - it returns OK, the request direction is in TUNNEL and the response direction in TUNNEL, or still in ERROR / STOP -/
def ReqStep (r : R) : Prop := NoTun r.1 ∨ (r.2 = .ok ∧ r.1.inn.status = STREAM_TUNNEL ∧ Quiet r.1.out.status)

theorem reqStep_of_frame {c : Conn} {r : R} (h : NoTun c) (k : ReqFrame c r.1) : ReqStep r := Or.inl (h.keep k.keepU)

theorem noTun_reqConnectCheck (c : Conn) (h : NoTun c) : NoTun (reqConnectCheck c).1 := by
  unfold reqConnectCheck
  refine ite_fst (fun _ => ?_) fun _ => ?_
  · exact ⟨dataOther_ne_tunnel, h.2⟩
  · exact h

/-- REQ_CONNECT_PROBE_DATA: the one place of the request side that writes TUNNEL - into both directions -/
theorem reqStep_reqConnectProbeLoop (cfg : Cfg) (fuel : Nat) (c : Conn) (h : NoTun c) : ReqStep (reqConnectProbeLoop cfg fuel c) := by
  induction fuel generalizing c with
  | zero => unfold reqConnectProbeLoop; exact Or.inl h
  | succ k ih =>
    unfold reqConnectProbeLoop
    simp only
    refine ite_cases (fun _ => ?_) fun _ => ?_
    · cases hc : (c.inn.peekSet).1.consolidate cfg.fieldLimitHard true with
      | none => exact Or.inl h
      | some q =>
        obtain ⟨d2, data⟩ := q
        have k2 : ReqFrame c { c with inn := d2 } := .setInn (congrArg Dir.status (Dir.consolidate_same hc) :)
        simp only
        refine ite_cases (fun _ => ?_) fun _ => ?_
        · split
          · exact reqStep_of_frame h (k2.trans (reqFrame_txStateRequestComplete cfg _ _))
          · exact reqStep_of_frame h k2
        · refine Or.inr ⟨rfl, rfl, ?_⟩
          show Quiet (if (c.out.status == STREAM_ERROR || c.out.status == STREAM_STOP) = true then c.out.status else STREAM_TUNNEL)
          refine ite_cases (fun _ => ?_) fun _ => ?_
          · rename_i he
            simp only [Bool.or_eq_true, beq_iff_eq] at he
            rcases he with he | he
            · exact Or.inr (Or.inl he)
            · exact Or.inr (Or.inr he)
          · exact Or.inl rfl
    · cases hn : (c.inn.peekSet).1.copyByte with
      | none => exact Or.inl h
      | some p =>
        obtain ⟨d, b⟩ := p
        exact ih _ (h.keep (ReqFrame.setInn (congrArg Dir.status (Dir.copyByte_eq hn).2.1 :)).keepU)

theorem reqStep_reqStateFn (cfg : Cfg) (c : Conn) (h : NoTun c) : ReqStep (reqStateFn cfg c) := by
  unfold reqStateFn
  cases c.inState with
  | idle => exact reqStep_of_frame h (walk_reqIdle (reqRel_reqFrame cfg).toReqFnRel (reqRel_reqFrame cfg).txCreate c)
  | line => exact reqStep_of_frame h (walk_reqLineLoop cfg (reqRel_reqFrame _) _ c)
  | protocol => exact reqStep_of_frame h (walk_reqProtocol (reqRel_reqFrame cfg) c)
  | headers => exact reqStep_of_frame h (walk_reqHeadersLoop cfg (reqRel_reqFrame _) _ c)
  | connectCheck => exact Or.inl (noTun_reqConnectCheck c h)
  | connectWaitResponse => exact reqStep_of_frame h (walk_reqConnectWaitResponse (reqRel_reqFrame cfg) c)
  | connectProbeData => exact reqStep_reqConnectProbeLoop cfg _ c h
  | bodyDetermine => exact reqStep_of_frame h (walk_reqBodyDetermine (reqRel_reqFrame cfg) c)
  | bodyIdentity => exact reqStep_of_frame h (walk_reqBodyIdentity (reqRel_reqFrame cfg) c (fun h => h.elim))
  | bodyChunkedLength => exact reqStep_of_frame h (walk_reqChunkedLengthLoop cfg (reqRel_reqFrame _) _ c)
  | bodyChunkedData => exact reqStep_of_frame h (walk_reqBodyChunkedData (reqRel_reqFrame cfg) c (fun h => h.elim))
  | bodyChunkedDataEnd => exact reqStep_of_frame h (walk_reqChunkedDataEndLoop (reqRel_reqFrame cfg) _ c)
  | finalize => exact reqStep_of_frame h (walk_reqFinalize cfg (reqRel_reqFrame _) c)
  | ignoreDataAfter09 => exact reqStep_of_frame h (walk_reqIgnore (reqRel_reqFrame cfg) c)

theorem pair_setIn {c : Conn} (d : Dir) (s : Nat) (hs : s ≠ STREAM_TUNNEL) (ho : c.out.status ≠ STREAM_TUNNEL) :
    TunnelPair { c with inn := { d with status := s } } := ⟨fun e => absurd e hs, fun e => absurd e ho⟩

theorem reqStep_reqPassStep {cfg : Cfg} {g : Bool} {c : Conn} {r : R} (h : NoTun c) (hs : reqPassStep cfg g c = some r) : ReqStep r := by
  rcases reqPassStep_cases hs with rfl | ⟨uid, rfl⟩ | rfl
  · exact reqStep_reqStateFn cfg c h
  · exact reqStep_of_frame h (reqFrame_txStateRequestComplete ..)
  · exact Or.inl h

theorem reqDriverLoop_pair (cfg : Cfg) (g : Bool) (fuel : Nat) (c : Conn) (h : NoTun c) : TunnelPair (reqDriverLoop cfg g fuel c).1 :=
  (reqDriverLoop_is cfg g).rule (I := NoTun) (Q := fun r => TunnelPair r.1)
    (fun c h => (h.keep (c' := { c with unsupported := true }) rfl).pair) (fun _ h => h.pair)
    (fun c r h hs => by
      rcases reqStep_reqPassStep h hs with h1 | ⟨hok, hti, hqo⟩
      · -- no TUNNEL was set: the hook keeps both statuses, the end of the call writes no TUNNEL
        have h2 : NoTun (reqPassHook r.1 r.2).1 := h1.keep (walk_reqPassHook (reqRel_reqFrame cfg).toReqFnRel ..).keepU
        refine ⟨fun _ _ => h2.pair, fun _ _ => h2, fun _ r' ⟨c3, d, s, h3, _, hs, e, _⟩ => ?_⟩
        have k : NoTun c3 := by
          rcases h3 with rfl | rfl
          · exact h2
          · exact h2.keep (reqFrame_reqReceiverSend false _).keepU
        rw [e]
        exact pair_setIn _ _ (by rcases hs with rfl | rfl | rfl | rfl <;> decide) k.2
      · -- the CONNECT probe switched to tunnel mode and answered OK: the hook returns the state as it is
        have e : reqPassHook r.1 r.2 = (r.1, .ok) := by
          unfold reqPassHook
          rw [hok, hti]; rfl
        rw [e]
        exact ⟨fun _ _ => ⟨fun _ => hqo, fun _ => .inl hti⟩, fun _ t => absurd hti t, fun ne => absurd rfl ne⟩)
    fuel c h

/-- `if (connp->out_status == HTP_STREAM_DATA_OTHER) connp->out_status = HTP_STREAM_DATA` sets no TUNNEL -/
theorem noTun_reqWakeOther (c : Conn) (h : NoTun c) : NoTun (reqWakeOther c) := by
  unfold reqWakeOther
  refine ite_cases (fun _ => ?_) fun _ => ?_
  · exact ⟨h.1, data_ne_tunnel⟩
  · exact h

/-- **a whole request data call keeps the pair invariant** - any chunk, a gap, the NULL chunk of a close, any state, any callback policy -/
theorem reqData_pair (cfg : Cfg) (data : Option Bytes) (len : Nat) (c : Conn) (h : TunnelPair c) : TunnelPair (reqData cfg data len c).1 := by
  rw [reqData_eq]
  refine reqDataCore_cases (P := fun r => TunnelPair r.1) cfg data len c (fun _ => h) (fun _ => h)
    (fun _ _ => ⟨fun e => absurd e error_ne_tunnel, fun _ => Or.inr (Or.inl rfl)⟩) (fun _ _ => h) (fun _ _ => h) fun h1 h2 h3 _ => ?_
  have hnq : ¬ Quiet c.inn.status := fun hq => by rcases hq with e | e | e <;> contradiction
  have hn : NoTun c := ⟨fun e => hnq (Or.inl e), fun e => hnq (h.2 e)⟩
  exact reqDriverLoop_pair cfg _ _ _ (noTun_reqWakeOther _ (hn.keep (c' := reqStoreChunk data len c) rfl))

/-- what a response state function does to the statuses when neither direction is in TUNNEL: it sets no TUNNEL, or it is the 101 switch -
    the response direction is in TUNNEL, the request direction in TUNNEL or still in ERROR / STOP, and what is returned is the code of a
    callback run (OK, STOP or ERROR - not DATA) -/
def ResStep (r : R) : Prop := NoTun r.1 ∨ (r.1.out.status = STREAM_TUNNEL ∧ Quiet r.1.inn.status ∧ CbRc r.2)

theorem resStep_of_frame {c : Conn} {r : R} (h : NoTun c) (k : ResFrame c r.1) : ResStep r := Or.inl (h.keep k.keepU)

theorem noTun_resRefusedConnect (t : Tx) (c : Conn) (h : NoTun c) : NoTun (resRefusedConnect t c) := by
  obtain ⟨_, ho, hs⟩ := resRefusedConnect_inn t c
  refine ⟨?_, by rw [ho]; exact h.2⟩
  rcases hs with e | ⟨e, _⟩
  · rw [e]; exact h.1
  · rw [e]; exact data_ne_tunnel

theorem resSwitchTunnel_statuses (c : Conn) : (resSwitchTunnel c).out.status = STREAM_TUNNEL ∧ Quiet (resSwitchTunnel c).inn.status := by
  obtain ⟨_, ho, hs⟩ := resSwitchTunnel_inn c
  refine ⟨ho, ?_⟩
  rcases hs with ⟨e, he | he⟩ | ⟨e, _⟩
  · rw [e]; exact .inr (.inl he)
  · rw [e]; exact .inr (.inr he)
  · exact .inl e

theorem resStep_resBodyDetermineRest (cfg : Cfg) (uid : Nat) (t : Tx) (c : Conn) (h : NoTun c) :
    ResStep (resBodyDetermineRest cfg uid t c) := by
  unfold resBodyDetermineRest
  extract_lets c1 cl te is100
  have h1 : NoTun c1 := noTun_resRefusedConnect t c h
  clear_value c1 is100
  refine ite_cases (fun _ => ?_) fun _ => ?_
  · obtain ⟨ho, hi⟩ := resSwitchTunnel_statuses c1
    have k := (resFrame_txStateResponseHeaders cfg uid (resSwitchTunnel c1)).keepU
    exact Or.inr ⟨by rw [k.out]; exact ho, by rw [k.inn]; exact hi, cbRc_txStateResponseHeaders ..⟩
  · refine ite_cases (fun _ => ?_) fun _ => ?_
    · exact resStep_of_frame h1 rfl
    · have k : KeepU c1 (resFramingStep uid t te cl (resNoBody uid t te cl (resExpectShortcut t c1))).1 :=
        ((keepU_resExpectShortcut t c1).trans (resFrame_resNoBody ..).keepU).trans (resFrame_resFramingStep ..).keepU
      generalize resFramingStep uid t te cl (resNoBody uid t te cl (resExpectShortcut t c1)) = r at k ⊢
      unfold R.andThen
      refine ite_cases (fun _ => ?_) fun _ => ?_
      · exact Or.inl (h1.keep (k.trans (resFrame_txStateResponseHeaders ..).keepU))
      · exact Or.inl (h1.keep k)

theorem resStep_resBodyDetermine (cfg : Cfg) (c : Conn) (h : NoTun c) : ResStep (resBodyDetermine cfg c) := by
  unfold resBodyDetermine
  cases c.out.tx with
  | none => exact Or.inl h
  | some uid =>
    simp only
    refine ite_cases (fun _ => ?_) fun _ => ?_
    · exact resStep_of_frame h (ResFrame.trans (b := { c with outState := .finalize }) rfl (resFrame_txStateResponseHeaders ..))
    · exact resStep_resBodyDetermineRest cfg uid _ c h

theorem resStep_resStateFn (cfg : Cfg) (c : Conn) (h : NoTun c) : ResStep (resStateFn cfg c) := by
  unfold resStateFn
  cases c.outState with
  | idle => exact Or.inl (h.keep (keepU_resIdle cfg c))
  | line => exact resStep_of_frame h (walk_resLineLoop cfg (resRel_resFrame _) _ c)
  | headers => exact resStep_of_frame h (walk_resHeadersLoop cfg (resRel_resFrame _) _ _ c)
  | bodyDetermine => exact resStep_resBodyDetermine cfg c h
  | bodyIdentityClKnown => exact resStep_of_frame h (walk_resBodyIdentityClKnown (resRel_resFrame cfg) c (fun h => h.elim))
  | bodyIdentityStreamClose => exact resStep_of_frame h (walk_resBodyIdentityStreamClose (resRel_resFrame cfg) c)
  | bodyChunkedLength => exact resStep_of_frame h (walk_resChunkedLengthLoop cfg (resRel_resFrame _) _ c)
  | bodyChunkedData => exact resStep_of_frame h (walk_resBodyChunkedData (resRel_resFrame cfg) c (fun h => h.elim))
  | bodyChunkedDataEnd => exact resStep_of_frame h (walk_resChunkedDataEndLoop (resRel_resFrame cfg) _ c)
  | finalize => exact resStep_of_frame h (walk_resFinalize cfg (resRel_resFrame _) c)

theorem pair_setOut {c : Conn} (d : Dir) (s : Nat) (hs : s ≠ STREAM_TUNNEL) (hi : c.inn.status ≠ STREAM_TUNNEL) :
    TunnelPair { c with out := { d with status := s } } := ⟨fun e => absurd e hi, fun e => absurd e hs⟩

theorem resStep_resPassStep {cfg : Cfg} {g : Bool} {c : Conn} {r : R} (h : NoTun c) (hs : resPassStep cfg g c = some r) : ResStep r := by
  rcases resPassStep_cases hs with rfl | ⟨uid, rfl⟩ | rfl
  · exact resStep_resStateFn cfg c h
  · exact resStep_of_frame h (resFrame_txStateResponseCompleteEx ..)
  · exact Or.inl h

theorem resDriverLoop_pair (cfg : Cfg) (g : Bool) (fuel : Nat) (c : Conn) (h : NoTun c) : TunnelPair (resDriverLoop cfg g fuel c).1 :=
  (resDriverLoop_is cfg g).rule (I := NoTun) (Q := fun r => TunnelPair r.1)
    (fun c h => (h.keep (c' := { c with unsupported := true }) rfl).pair) (fun _ h => h.pair)
    (fun c r h hs => by
      rcases resStep_resPassStep h hs with h1 | ⟨hto, hqi, hrc⟩
      · have h2 : NoTun (resPassHook r.1 r.2).1 := h1.keep (walk_resPassHook (resRel_resFrame cfg).toResFnRel ..).keepU
        refine ⟨fun _ _ => h2.pair, fun _ _ => h2, fun _ r' ⟨c3, d, s, h3, _, hs, e, _⟩ => ?_⟩
        have k : c3.inn.status ≠ STREAM_TUNNEL := by
          rcases h3 with rfl | rfl
          · exact h2.1
          · rw [(resFrame_resReceiverSend false _).innStatus]; exact h2.1
        rw [e]
        exact pair_setOut _ _ (by rcases hs with rfl | ⟨rfl, _⟩ | ⟨rfl, _⟩ | ⟨rfl, _⟩ <;> decide) k
      · -- the 101 switch: the response status is TUNNEL, the request status quiet, the answer that of a callback run; on OK the hook
        -- returns the state as it is, on STOP / ERROR the call ends with a status that is quiet too
        have e : (resPassHook r.1 r.2).1 = r.1 ∧ (resPassHook r.1 r.2).2 = r.2 := by
          unfold resPassHook
          refine ite_cases (P := fun x : R => x.1 = r.1 ∧ x.2 = r.2) (fun ok => ?_) fun _ => ⟨rfl, rfl⟩
          rw [hto]; exact ⟨rfl, (eq_of_beq ok).symm⟩
        rw [e.1, e.2]
        refine ⟨fun _ _ => ⟨fun _ => .inl hto, fun _ => hqi⟩, fun _ t => absurd hto t, fun ne r' ⟨c3, d, s, h3, _, hs, e', _⟩ => ?_⟩
        have k : c3.inn.status = r.1.inn.status := by
          rcases h3 with rfl | rfl
          · rfl
          · exact (resFrame_resReceiverSend false _).innStatus
        have hq : Quiet s := by
          rcases hrc with o | o | o
          · exact absurd o ne
          · rcases hs with rfl | ⟨_, n, _⟩ | ⟨_, n, _⟩ | ⟨rfl, _⟩
            · exact .inr (.inl rfl)
            · exact absurd o n
            · exact absurd o n
            · exact .inr (.inr rfl)
          · rcases hs with rfl | ⟨_, _, n⟩ | ⟨_, _, n⟩ | ⟨_, n⟩
            · exact .inr (.inl rfl)
            · exact absurd o n
            · exact absurd o n
            · rw [o] at n; cases n
        rw [e']
        exact ⟨fun _ => hq, fun _ => by show Quiet c3.inn.status; rw [k]; exact hqi⟩)
    fuel c h

theorem resData_pair (cfg : Cfg) (data : Option Bytes) (len : Nat) (c : Conn) (h : TunnelPair c) : TunnelPair (resData cfg data len c).1 := by
  rw [resData_eq]
  refine resDataCore_cases (P := fun r => TunnelPair r.1) cfg data len c (fun _ => h) (fun _ => h)
    (fun _ _ => ⟨fun _ => Or.inr (Or.inl rfl), fun e => absurd e error_ne_tunnel⟩) (fun _ _ => h) (fun _ _ => h) fun h1 h2 h3 _ => ?_
  have hnq : ¬ Quiet c.out.status := fun hq => by rcases hq with e | e | e <;> contradiction
  have hn : NoTun c := ⟨fun e => hnq (h.1 e), fun e => hnq (Or.inl e)⟩
  exact resDriverLoop_pair cfg _ _ _ (hn.keep (c' := resStoreChunk data len c) rfl)

end Htp.Conn
