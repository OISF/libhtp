/- The callback log is append-only and the callback counter counts exactly the logged events, over every call history: the `Ext`
   coordinate of the walk (Lemmas/ConnSweepHist.lean), read out. Only `runCallback` writes the two fields, one event and one count per
   invocation. -/
import HtpModel.Lemmas.ConnSweepHist
namespace Htp.Conn
open Htp Htp.Gen

/-- (for the start state of a history take `pre := []` in the prefix forms below: `runCalls cfg c0 [] = c0` by `rfl`) -/
theorem Ext.weak {c c' : Conn} (h : Ext c c') : (∃ new, c'.events = new ++ c.events) ∧ c.cbCount ≤ c'.cbCount := by
  obtain ⟨n, e, k⟩ := h
  exact ⟨⟨n, e⟩, by omega⟩

theorem history_events_prefix (cfg : Cfg) (c0 : Conn) {pre calls : List Call} (hp : pre <+: calls) :
    Ext (runCalls cfg c0 pre) (runCalls cfg c0 calls) := (calls_prefix cfg c0 hp).ext

theorem history_events_prefix_weak (cfg : Cfg) (c0 : Conn) {pre calls : List Call} (hp : pre <+: calls) :
    (∃ new, (runCalls cfg c0 calls).events = new ++ (runCalls cfg c0 pre).events) ∧
    (runCalls cfg c0 pre).cbCount ≤ (runCalls cfg c0 calls).cbCount :=
  (history_events_prefix cfg c0 hp).weak

theorem Ext.suffix {c c' : Conn} (h : Ext c c') : c.events <:+ c'.events := by
  obtain ⟨n, e, _⟩ := h
  exact ⟨n, e.symm⟩

theorem Ext.sublist {c c' : Conn} (h : Ext c c') : c.events.Sublist c'.events := h.suffix.sublist

theorem Ext.count {c c' : Conn} (h : Ext c c') : c'.cbCount + c.events.length = c.cbCount + c'.events.length := by
  obtain ⟨n, e, k⟩ := h
  rw [e, k, List.length_append]; omega

theorem history_event_mem_stable (cfg : Cfg) (c0 : Conn) {pre calls : List Call} (hp : pre <+: calls) {e : Event}
    (he : e ∈ (runCalls cfg c0 pre).events) : e ∈ (runCalls cfg c0 calls).events :=
  (history_events_prefix cfg c0 hp).sublist.subset he

theorem history_events_suffix (cfg : Cfg) (c0 : Conn) {pre calls : List Call} (hp : pre <+: calls) :
    (runCalls cfg c0 pre).events <:+ (runCalls cfg c0 calls).events :=
  (history_events_prefix cfg c0 hp).suffix

theorem history_event_index_stable (cfg : Cfg) (c0 : Conn) {pre calls : List Call} (hp : pre <+: calls) {i : Nat}
    (hi : i < (runCalls cfg c0 pre).events.length) :
    (runCalls cfg c0 calls).events.reverse[i]? = (runCalls cfg c0 pre).events.reverse[i]? := by
  obtain ⟨t, ht⟩ := List.reverse_prefix.mpr (history_events_prefix cfg c0 hp).suffix
  rw [← ht]
  exact List.getElem?_append_left (by rw [List.length_reverse]; exact hi)

theorem history_cbCount_mono (cfg : Cfg) (c0 : Conn) {pre calls : List Call} (hp : pre <+: calls) :
    (runCalls cfg c0 pre).cbCount ≤ (runCalls cfg c0 calls).cbCount :=
  (history_events_prefix cfg c0 hp).weak.2

theorem history_cbCount_eq_length (cfg : Cfg) (calls : List Call) :
    (runCalls cfg {} calls).cbCount = (runCalls cfg {} calls).events.length := by
  have h := (calls_runCalls cfg {} calls).ext.count
  have e0 : ({} : Conn).events.length = 0 := rfl
  have k0 : ({} : Conn).cbCount = 0 := rfl
  omega

/-- a fresh connection parser, a complete GET request, then a complete response with a 5-byte body: fifteen callbacks, in this order of
    delivery (the body-data hook runs for the body and for the two end-of-body NULL calls); the log after the request alone is the first
    six of them, and the counter is the length of the log at both points -/
example :
    let calls : List Call := [.open, .req (b!"GET /index.html HTTP/1.1\r\nHost: example.com\r\n\r\n"),
      .res (b!"HTTP/1.1 200 OK\r\nContent-Length: 5\r\n\r\nhello")]
    let c := runCalls {} {} calls
    let c1 := runCalls {} {} (calls.take 2)
    c.events.reverse.map (·.hook) =
      [.requestStart, .requestUriNormalize, .requestLine, .requestHeaderData, .requestHeaders, .requestComplete,
       .responseStart, .responseLine, .responseHeaderData, .responseHeaders, .responseBodyData, .responseBodyData,
       .responseBodyData, .responseComplete, .transactionComplete] ∧
    c.cbCount = 15 ∧ c.events.length = 15 ∧
    c1.events.reverse.map (·.hook) =
      [.requestStart, .requestUriNormalize, .requestLine, .requestHeaderData, .requestHeaders, .requestComplete] ∧
    c1.cbCount = 6 ∧ c.events.drop 9 = c1.events := by decide +kernel

end Htp.Conn
