/- THE WHOLE CALL of the request direction (Lemmas/Answer.lean is one state function at a time): what a pass and the end of the call
   do with the state function's answer, and 'DATA means the whole chunk was consumed' for htp_connp_req_data, by the rule of the driver
   loop along `CallReach` (Lemmas/DriverRule.lean). The response direction: Lemmas/ConsumedCallOut.lean. -/
import HtpModel.Lemmas.Answer
namespace Htp.Conn
open Htp Htp.Gen

theorem ReqEnds.read_len {cfg : Cfg} {c : Conn} {rc : Rc} {r : Conn × Nat} (h : ReqEnds cfg c rc r) :
    r.1.inn.read = c.inn.read ∧ r.1.inn.len = c.inn.len := by
  obtain ⟨c3, d, s, h3, hd, _, rfl, _⟩ := h
  have k3 : c3.inn.read = c.inn.read ∧ c3.inn.len = c.inn.len := by
    rcases h3 with rfl | rfl
    · exact ⟨rfl, rfl⟩
    · exact ⟨(reqTx_reqReceiverSend false c).keepIn.1, (reqTx_reqReceiverSend false c).keepIn.2.1⟩
  rcases hd with rfl | hb
  · exact k3
  · exact ⟨(Dir.buffer_read_len hb).1.trans k3.1, (Dir.buffer_read_len hb).2.trans k3.2⟩

theorem ReqEnds.of_data {cfg : Cfg} {c : Conn} {rc : Rc} {r : Conn × Nat} (h : ReqEnds cfg c rc r) (hd : rc = Rc.data ∨ rc = Rc.dataBuffer) :
    (r.2 = STREAM_DATA ∨ r.2 = STREAM_ERROR) ∧ r.1.inn.read = c.inn.read ∧ r.1.inn.len = c.inn.len := by
  refine ⟨?_, h.read_len⟩
  obtain ⟨c3, d, s, _, _, _, rfl, ⟨_, _, hs⟩ | ⟨n1, n2, _⟩⟩ := h
  · exact hs
  · exact absurd hd (fun x => x.elim n1 n2)

theorem reqPass_of_ne_ok (cfg : Cfg) (c : Conn) (h : (reqStateFn cfg c).2 ≠ Rc.ok) : reqPass cfg c = reqStateFn cfg c := by
  unfold reqPass reqPassHook
  rw [if_neg (by simpa using h)]

theorem noData_reqReceiverSet (h : Hook) (c : Conn) : NoData (reqReceiverSet h c).2 := by
  unfold reqReceiverSet
  simp only
  exact noData_reqReceiverFinalizeClear c

theorem noData_reqHandleStateChange (c : Conn) : NoData (reqHandleStateChange c).2 := by
  unfold reqHandleStateChange
  split
  · exact NoData.ok
  · simp only
    apply noData_andThen
    · -- which receiver is installed depends on the two states: each branch is a hand-over, HTP_OK or HTP_ERROR
      repeat' split
      all_goals first | exact NoData.ok | exact NoData.error | exact noData_reqReceiverSet _ _
    · intro c1; exact NoData.ok

/-- a pass hands on HTP_DATA / HTP_DATA_BUFFER only as the state function's own answer: the state-change hook answers neither -/
theorem reqPassHook_data (c : Conn) (rc : Rc) (h : (reqPassHook c rc).2 = Rc.data ∨ (reqPassHook c rc).2 = Rc.dataBuffer) :
    reqPassHook c rc = (c, rc) := by
  unfold reqPassHook at h ⊢
  split
  · rw [if_pos (by assumption)] at h
    split
    · rw [if_pos (by assumption)] at h
      rcases h with h | h <;> cases h
    · rw [if_neg (by assumption)] at h
      have hn := noData_reqHandleStateChange c
      rcases h with h | h
      · exact absurd h hn.1
      · exact absurd h hn.2
  · rfl

/-- a call that ends with STREAM_DATA has read the whole chunk, if it had when the state function answered HTP_DATA / HTP_DATA_BUFFER
    (HTP_DATA_OTHER becomes STREAM_DATA only at the end of the chunk) -/
theorem ReqEnds.data {cfg : Cfg} {c : Conn} {rc : Rc} {r : Conn × Nat} (h : ReqEnds cfg c rc r) (hs : r.2 = STREAM_DATA)
    (hc : (rc = Rc.data ∨ rc = Rc.dataBuffer) → c.inn.len ≤ c.inn.read) : r.1.inn.len ≤ r.1.inn.read := by
  rw [h.read_len.1, h.read_len.2]
  obtain ⟨c3, d, s, _, _, _, rfl, ⟨hd, _⟩ | ⟨_, _, _, _, h1, _⟩⟩ := h
  · exact hc hd
  · exact h1 hs

theorem reqDriverLoop_data_consumed (cfg : Cfg) (fuel : Nat) (c0 c : Conn) (hr : CallReach cfg c0 c) (w : WFCur c.inn)
    (ho : ∀ c', CallReach cfg c0 c' → OwedPos c')
    (hdata : (reqDriverLoop cfg false fuel c).2 = STREAM_DATA) :
    (reqDriverLoop cfg false fuel c).1.inn.len ≤ (reqDriverLoop cfg false fuel c).1.inn.read :=
  have K := reqRelS_inv (cfg := cfg) (dirInv_wfCur cfg.fieldLimitHard)
  (reqDriverLoop_is cfg false).rule (I := fun c => CallReach cfg c0 c ∧ WFCur c.inn)
    (Q := fun r => r.2 = STREAM_DATA → r.1.inn.len ≤ r.1.inn.read)
    (fun _ _ e => absurd e (show STREAM_ERROR ≠ STREAM_DATA by decide)) (fun _ _ e => absurd e (show STREAM_CLOSED ≠ STREAM_DATA by decide))
    (fun c r h hs => by
      cases reqStep_false hs
      have hoc := ho c h.1
      have wp : WFCur (reqPass cfg c).1.inn :=
        walk_reqPassHook K.toReqFnRel _ _ (wfIn_reqStateFn cfg c h.2 (owedOK_of_pos hoc).1 (owedOK_of_pos hoc).2)
      refine ⟨fun _ _ e => absurd e (show STREAM_TUNNEL ≠ STREAM_DATA by decide),
        fun hok ht => ⟨h.1.pass hok (beq_eq_false_iff_ne.mpr ht), wp⟩, fun _ _ e hd => ?_⟩
      refine e.data hd fun hdd => ?_
      have e := reqPassHook_data _ _ hdd
      rw [e] at hdd ⊢
      exact consumed_reqStateFn cfg c (fun _ => h.2) hoc.1 hoc.2 hdd)
    fuel c ⟨hr, w⟩ hdata

/-- **DATA means the whole chunk was consumed, for a whole request data call**: htp_connp_req_data on any state and any chunk of data that
    returns HTP_STREAM_DATA leaves the read cursor exactly at the end of the chunk - provided the line buffer was within the limit (the
    invariant carried from call to call) and every pass of the call finds the counted body states still owing bytes -/
theorem reqData_data_consumed (cfg : Cfg) (d : Bytes) (c : Conn) (hs : (d.length : Int) < 18446744073709551616)
    (hb : inBufLen c ≤ cfg.fieldLimitHard)
    (ho : ∀ c', CallReach cfg (reqWakeOther (reqStoreChunk (some d) d.length c)) c' → OwedPos c')
    (hdata : (reqData cfg (some d) d.length c).2 = STREAM_DATA) :
    (reqData cfg (some d) d.length c).1.inn.read = (reqData cfg (some d) d.length c).1.inn.len := by
  have wst : WFB cfg.fieldLimitHard (reqStoreChunk (some d) d.length c).inn := ⟨wf_reqStoreChunk d c hs, hb⟩
  rw [reqData_eq] at hdata ⊢
  revert hdata
  refine reqDataCore_cases (P := fun r => r.2 = STREAM_DATA → r.1.inn.read = r.1.inn.len) cfg _ _ c
    (fun _ h => absurd h (show STREAM_STOP ≠ STREAM_DATA by decide)) (fun _ h => absurd h (show STREAM_ERROR ≠ STREAM_DATA by decide))
    (fun _ _ h => absurd h (show STREAM_ERROR ≠ STREAM_DATA by decide)) (fun _ _ h => absurd h (show STREAM_CLOSED ≠ STREAM_DATA by decide))
    (fun _ _ h => absurd h (show STREAM_TUNNEL ≠ STREAM_DATA by decide)) fun _ _ _ _ hdata => ?_
  have w0 : WFB cfg.fieldLimitHard (reqWakeOther (reqStoreChunk (some d) d.length c)).inn := by rw [reqWakeOther_inn]; exact wst
  have hc := reqDriverLoop_data_consumed cfg _ _ _ CallReach.start w0.1 ho hdata
  have hw := (reqDriverLoop_wfb cfg (8 * d.length + 64) _ _ CallReach.start w0 (fun c' h => owedOK_of_pos (ho c' h))).1.rl
  exact Int.le_antisymm hw hc

end Htp.Conn
