/- For Props/C13: the parsed components as text again (`rejoinAuth`, `schemePart`, `authPart`, `rejoinTail`); each stage of the splitter
   re-joins to its input. `noJunkAfterBracket` here is the guard on the host part; the guard on a whole target, `noBracketJunk`, and
   `authorityOf` are in Props/C13.lean. -/
import HtpModel.Util.Uri
import HtpModel.Lemmas.ListFacts

namespace Htp.Uri

theorem splitAt1_some (c : UInt8) (b pre post : Bytes) (h : splitAt1 c b = some (pre, post)) :
    b = pre ++ c :: post ∧ c ∉ pre := by
  unfold splitAt1 at h
  dsimp only at h
  split at h
  · rename_i hlt
    cases h
    refine ⟨?_, not_mem_takeWhile_bne c b⟩
    rcases scan_bne_cases c b with ⟨e, _⟩ | ⟨t, e, hd⟩
    · rw [e] at hlt
      omega
    · rw [← List.drop_drop, drop_takeWhile, hd]
      exact e
  · cases h

theorem splitAt1_nil (c : UInt8) : splitAt1 c [] = none := rfl

theorem splitAt1_cons_self (c : UInt8) (t : Bytes) : splitAt1 c (c :: t) = some ([], t) := by
  simp [splitAt1]

def rejoinAuth (a : Auth) : Bytes :=
  (match a.username with
   | some us => us ++ (match a.password with | some p => 0x3a :: p | none => []) ++ [0x40]
   | none => []) ++
  (a.hostname.getD []) ++
  (match a.port with | some p => 0x3a :: p | none => [])

/-- the decidable guard excluding finding S6: after a bracketed literal nothing but ":port" follows -/
def noJunkAfterBracket (hostpart : Bytes) : Bool :=
  match hostpart with
  | 0x5b :: _ =>
    (match splitAt1 0x5d hostpart with
     | none => true
     | some (_, after) => after.isEmpty || after.head? == some 0x3a)
  | _ => true

def hostPartOf (auth : Bytes) : Bytes :=
  match splitAt1 0x40 auth with
  | some (_, hp) => hp
  | none => auth

theorem hostPart_join (hp : Bytes) (h : noJunkAfterBracket hp = true) :
    ((parseHostPart hp).1.getD []) ++ (match (parseHostPart hp).2 with | some p => 0x3a :: p | none => []) = hp := by
  unfold parseHostPart
  unfold noJunkAfterBracket at h
  split
  · rename_i tl
    cases hs : splitAt1 0x5d (0x5b :: tl) with
    | none => simp
    | some pr =>
      obtain ⟨pre, after⟩ := pr
      rw [hs] at h
      have hj := (splitAt1_some _ _ _ _ hs).1
      -- what follows the bracket is nothing or starts with the colon, so the scan for the colon drops no byte
      cases after with
      | nil => simp [splitAt1_nil, hj]
      | cons x xs =>
        have hx : x = 0x3a := by simpa using h
        subst hx
        simp [splitAt1_cons_self, hj]
  · cases hc : splitAt1 0x3a hp with
    | none => simp
    | some pr =>
      obtain ⟨host, port⟩ := pr
      simp [(splitAt1_some _ _ _ _ hc).1]

theorem parseHostPart_isSome (hp : Bytes) : (parseHostPart hp).1.isSome = true := by
  unfold parseHostPart
  split
  · cases h1 : splitAt1 0x5d _ with
    | none => simp
    | some pr =>
      obtain ⟨pre, after⟩ := pr
      cases h2 : splitAt1 0x3a after with
      | none => simp [h2]
      | some pr2 => simp [h2]
  · cases h1 : splitAt1 0x3a hp with
    | none => simp
    | some pr => simp

theorem parseAuthority_isSome (a : Bytes) : (parseAuthority a).hostname.isSome = true := by
  unfold parseAuthority
  cases h0 : splitAt1 0x40 a with
  | none =>
    have := parseHostPart_isSome a
    simpa using this
  | some pr =>
    obtain ⟨cred, hp⟩ := pr
    have := parseHostPart_isSome hp
    cases h1 : splitAt1 0x3a cred with
    | none => simpa [h1] using this
    | some pr2 => simpa [h1] using this

theorem authority_join (auth : Bytes) (h : noJunkAfterBracket (hostPartOf auth) = true) :
    rejoinAuth (parseAuthority auth) = auth := by
  unfold parseAuthority rejoinAuth hostPartOf at *
  cases hs : splitAt1 0x40 auth with
  | none =>
    simp only [hs] at h
    have := hostPart_join auth h
    simpa using this
  | some pr =>
    obtain ⟨cred, hp⟩ := pr
    simp only [hs] at h
    have hj := (splitAt1_some _ _ _ _ hs).1
    have hh := hostPart_join hp h
    cases hc : splitAt1 0x3a cred with
    | none =>
      simp only [hc]
      rw [hj]
      simp only [List.append_assoc]
      rw [hh]
      simp
    | some pr2 =>
      obtain ⟨user, pass⟩ := pr2
      have hj2 := (splitAt1_some _ _ _ _ hc).1
      simp only [hc]
      rw [hj, hj2]
      simp only [List.append_assoc]
      rw [hh]
      simp

def schemePart (o : Option Bytes) : Bytes := match o with | some s => s ++ [0x3a] | none => []
def authPart (o : Option Bytes) : Bytes := match o with | some a => 0x2f :: 0x2f :: a | none => []

theorem scheme_join (data : Bytes) :
    schemePart (splitScheme data).1 ++ (splitScheme data).2 = data := by
  unfold splitScheme
  split
  · cases hs : splitAt1 0x3a data with
    | none => rfl
    | some pr =>
      obtain ⟨a, b⟩ := pr
      show a ++ [0x3a] ++ b = data
      rw [(splitAt1_some _ _ _ _ hs).1, List.append_assoc]
      rfl
  · rfl

theorem authority_split_join (sch : Option Bytes) (rest : Bytes) :
    authPart (splitAuthority sch rest).1 ++ (splitAuthority sch rest).2 = rest := by
  unfold splitAuthority
  split
  · rename_i hc
    simp only [Bool.and_eq_true] at hc
    have ht : rest.take 2 = [0x2f, 0x2f] := by simpa using hc.1.1.2
    have hsplit := List.take_append_drop 2 rest
    rw [ht] at hsplit
    show 0x2f :: 0x2f :: (List.takeWhile authEnd (rest.drop 2)) ++
      (rest.drop 2).drop (List.takeWhile authEnd (rest.drop 2)).length = rest
    rw [List.cons_append, List.cons_append, drop_takeWhile, List.takeWhile_append_dropWhile]
    exact hsplit
  · rfl

def rejoinTail (t : Tail) : Bytes :=
  t.path ++ (match t.query with | some q => 0x3f :: q | none => []) ++
  (match t.fragment with | some f => 0x23 :: f | none => [])

theorem tail_join (rest : Bytes) : rejoinTail (parseTail rest) = rest := by
  unfold parseTail rejoinTail
  dsimp only
  rw [drop_takeWhile]
  rcases scan_cases pathEnd rest with ⟨e, hd⟩ | ⟨x, tl, hx, e, hd⟩
  · rw [hd]
    simpa using e
  · rw [hd]
    dsimp only
    by_cases h3 : x = 0x3f
    · subst h3
      simp only [beq_self_eq_true, if_true]
      rw [drop_takeWhile]
      rcases scan_bne_cases 0x23 tl with ⟨e2, hd2⟩ | ⟨fr, e2, hd2⟩
      · rw [hd2]
        simp only [List.append_nil, e2]
        exact e.symm
      · rw [hd2]
        simp only [List.append_assoc, List.cons_append]
        rw [← e2]
        exact e.symm
    · have hx' : x = 0x23 := by
        simp [pathEnd] at hx
        exact hx h3
      subst hx'
      have : ((0x23 : UInt8) == 0x3f) = false := by decide
      simp only [this]
      simpa using e.symm

end Htp.Uri
