/- C04 (responses are paired with their requests, in order) over whole histories: `out_next_tx_index` and HTP_CONN_PIPELINED.

   The walk is the index coordinate of Lemmas/ConnSweep.lean: `KeepIdx` (the index is not written, the list is not shorter, PIPELINED
   is not cleared) for every function of the request side, transaction creation included, and every function of the response side below
   RES_IDLE; `OkIdx` (`index ≤ length` is kept, PIPELINED is not cleared) for RES_IDLE (+1, and the slot exists or a transaction is
   appended), htp_connp_tx_freed (index and length both go down by the number of dropped slots), and the calls above them. Here: whole
   histories and the exact steps (PIPELINED over a history has no theorem of its own: it is `(calls_runCalls cfg c0 calls).idx.pip`,
   `OkIdx.pip`). The lower bound `0 ≤ index` is NOT kept by htp_connp_tx_freed from an arbitrary state (witness at the
   end of the file). -/
import HtpModel.Lemmas.ConnSweepHist
namespace Htp.Conn
open Htp Htp.Gen

theorem txFreedLoop_exact (fuel : Nat) (c : Conn) (r : Nat) :
    (txFreedLoop fuel c r).1.outNextTxIndex = c.outNextTxIndex - (((txFreedLoop fuel c r).2 - r : Nat) : Int) ∧
    (txFreedLoop fuel c r).1.txs.length + ((txFreedLoop fuel c r).2 - r) = c.txs.length ∧ r ≤ (txFreedLoop fuel c r).2 ∧
    (txFreedLoop fuel c r).1.connFlags = c.connFlags := by
  induction fuel generalizing c r with
  | zero => unfold txFreedLoop; simp
  | succ k ih =>
    unfold txFreedLoop
    split
    · rename_i rest heq
      obtain ⟨i1, i2, i3, i4⟩ := ih { c with txs := rest, outNextTxIndex := c.outNextTxIndex - 1 } (r + 1)
      have hlen : c.txs.length = rest.length + 1 := by rw [heq]; rfl
      simp only at i1 i2 i4
      refine ⟨?_, ?_, ?_, i4⟩
      · rw [i1]; omega
      · omega
      · omega
    · simp

theorem txFreed_exact (c : Conn) :
    (txFreed c).1.outNextTxIndex = c.outNextTxIndex - ((txFreed c).2 : Int) ∧ (txFreed c).1.txs.length + (txFreed c).2 = c.txs.length := by
  have h := txFreedLoop_exact c.txs.length c 0
  unfold txFreed
  simp only [Nat.sub_zero] at h
  exact ⟨h.1, h.2.1⟩

theorem idxInv_fresh : IdxInv ({} : Conn) := by show (0 : Int) ≤ ((0 : Nat) : Int); decide

/-- **C04 (index), whole histories**: after any history of calls the response side does not point beyond the transaction list -/
theorem history_out_index_inv (cfg : Cfg) (c0 : Conn) (calls : List Call) (h : IdxInv c0) : IdxInv (runCalls cfg c0 calls) :=
  (calls_runCalls cfg c0 calls).idx.inv h

theorem history_out_index_inv_prefix (cfg : Cfg) (c0 : Conn) (calls pre : List Call) (_hp : pre <+: calls) (h : IdxInv c0) :
    IdxInv (runCalls cfg c0 pre) := history_out_index_inv cfg c0 pre h

theorem reqData_index (cfg : Cfg) (data : Option Bytes) (len : Nat) (c : Conn) :
    (reqData cfg data len c).1.outNextTxIndex = c.outNextTxIndex := (keeps_reqData cfg data len c).idx.idx

theorem resIdleUnmatched_index_step (cfg : Cfg) (c : Conn) :
    (resIdleUnmatched cfg c).1.outNextTxIndex = c.outNextTxIndex ∨ (resIdleUnmatched cfg c).1.outNextTxIndex = c.outNextTxIndex + 1 := by
  unfold resIdleUnmatched
  have k := keepIdx_txCreate cfg c
  rcases hx : txCreate cfg c with ⟨c2, u⟩
  rw [hx] at k
  simp only at k ⊢
  cases u with
  | none => exact Or.inl k.idx
  | some uid =>
    simp only
    right
    refine ((keeps_txStateResponseStart (m := 0) uid _ ?_).idx.idx).trans ?_
    · rfl
    · show c2.outNextTxIndex + 1 = c.outNextTxIndex + 1
      rw [k.idx]

/-- RES_IDLE moves the index by one, or not at all (no data, or creation refused) -/
theorem resIdle_index_step (cfg : Cfg) (c : Conn) :
    (resIdle cfg c).1.outNextTxIndex = c.outNextTxIndex ∨ (resIdle cfg c).1.outNextTxIndex = c.outNextTxIndex + 1 := by
  unfold resIdle
  split
  · exact Or.inl rfl
  · simp only []
    split
    · have hk : KeepIdx c (if c.inState == .finalize then (match c.inn.tx with | some uid => (txStateRequestComplete cfg uid c).1 | none => c) else c) := by
        split
        · split
          · exact (keeps_txStateRequestComplete (m := 0) ..).idx
          · exact .refl c
        · exact .refl c
      generalize (if c.inState == .finalize then (match c.inn.tx with | some uid => (txStateRequestComplete cfg uid c).1 | none => c) else c) = cm at hk ⊢
      rcases resIdleUnmatched_index_step cfg cm with h | h
      · left; rw [h, hk.idx]
      · right; rw [h, hk.idx]
    · rename_i t _
      right
      refine (keeps_txStateResponseStart (m := 0) t.uid _ ?_).idx.idx
      rfl

/-- two pipelined requests in one chunk, then their two responses in one chunk: PIPELINED is raised by the second creation (the list
    holds 1 > index 0), the two responses attach in arrival order, the index ends at 2 = list length, PIPELINED is still set -/
example :
    let rq : Bytes := b!"GET / HTTP/1.1\r\nHost: h\r\n\r\n"
    let rs : Bytes := b!"HTTP/1.1 200 OK\r\nContent-Length: 0\r\n\r\n"
    let c1 := runCalls {} {} [.open, .req rq]
    let c2 := runCalls {} {} [.open, .req (rq ++ rq)]
    let c3 := runCalls {} {} [.open, .req (rq ++ rq), .res (rs ++ rs)]
    hasFlag c1.connFlags CONN_PIPELINED = false ∧
    c2.outNextTxIndex = 0 ∧ c2.txs.length = 2 ∧ hasFlag c2.connFlags CONN_PIPELINED = true ∧
    c3.outNextTxIndex = 2 ∧ c3.txs.length = 2 ∧ hasFlag c3.connFlags CONN_PIPELINED = true := by decide +kernel

/-- **the lower bound `0 ≤ out_next_tx_index` is not kept by htp_connp_tx_freed from an arbitrary state**: a list whose first slot is
    empty while the index is still 0 (`0 ≤ index ≤ length` holds) - htp_connp_tx_freed drops the slot and the index becomes -1. The
    model (like the C code) decrements without looking at the index. So `0 ≤ index` needs a stronger invariant (no empty slot at or
    after the index), which is not proved here; the upper bound `IdxInv` is inductive on its own. -/
example :
    let c0 : Conn := { txs := [none] }
    (0 ≤ c0.outNextTxIndex ∧ c0.outNextTxIndex ≤ (c0.txs.length : Int)) ∧
    (txFreed c0).1.outNextTxIndex = -1 ∧ (txFreed c0).1.txs.length = 0 ∧ (txFreed c0).2 = 1 := by decide +kernel

end Htp.Conn
