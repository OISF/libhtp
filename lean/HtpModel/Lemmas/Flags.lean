/- Flag words: a bit of an OR or an `if` (`hasFlag_*`), containment (`FlagSub`), and `flag_mono` for "the word that comes back contains
   the word that went in". -/
import HtpModel.Basic

namespace Htp

theorem hasFlag_or (f g b : Nat) : hasFlag (f ||| g) b = (hasFlag f b || hasFlag g b) := by
  have h : (f ||| g) &&& b = 0 ↔ f &&& b = 0 ∧ g &&& b = 0 := by rw [Nat.and_or_distrib_right, Nat.or_eq_zero_iff]
  rw [Bool.eq_iff_iff]
  simp only [hasFlag, bne_iff_ne, ne_eq, h, Bool.or_eq_true]
  exact Decidable.not_and_iff_not_or_not

theorem hasFlag_ite (c : Prop) [Decidable c] (f g b : Nat) :
    hasFlag (if c then f else g) b = if c then hasFlag f b else hasFlag g b :=
  apply_ite (hasFlag · b) c f g

theorem hasFlag_self (b : Nat) (hb : b ≠ 0) : hasFlag b b = true := by
  simpa [hasFlag] using hb

theorem hasFlag_or_right (f b : Nat) (hb : b ≠ 0) : hasFlag (f ||| b) b = true := by
  rw [hasFlag_or, hasFlag_self b hb, Bool.or_true]

theorem hasFlag_mono (f g b : Nat) (h : hasFlag f b = true) : hasFlag (f ||| g) b = true := by
  rw [hasFlag_or, h, Bool.true_or]

theorem hasFlag_or_false (f g b : Nat) (h1 : hasFlag f b = false) (h2 : hasFlag g b = false) : hasFlag (f ||| g) b = false := by
  rw [hasFlag_or, h1, h2, Bool.or_false]

/-- every bit of `a` is a bit of `b` -/
def FlagSub (a b : Nat) : Prop := a &&& b = a

theorem FlagSub.refl (a : Nat) : FlagSub a a := Nat.and_self a

theorem FlagSub.and_eq {a b : Nat} (h : FlagSub a b) (x : Nat) : a &&& x = a &&& (b &&& x) := by
  rw [← Nat.and_assoc, h]

theorem FlagSub.trans {a b c : Nat} (h1 : FlagSub a b) (h2 : FlagSub b c) : FlagSub a c := by
  unfold FlagSub
  rw [h1.and_eq, h2, h1]

theorem FlagSub.or (a x : Nat) : FlagSub a (a ||| x) := by
  unfold FlagSub
  apply Nat.eq_of_testBit_eq
  intro i
  rw [Nat.testBit_and, Nat.testBit_or]
  cases a.testBit i <;> simp

theorem FlagSub.or_right {a b : Nat} (x : Nat) (h : FlagSub a b) : FlagSub a (b ||| x) := h.trans (FlagSub.or b x)

theorem FlagSub.setFlag {a b : Nat} (x : Nat) (h : FlagSub a b) : FlagSub a (setFlag b x) := h.or_right x

/-- with `apply`, unification takes the `if`s apart and leaves the rest of the goal alone; the unary forms below are told the function
    `g` through which the `if` is read -/
theorem rel_ite {α : Type} {Q : α → α → Prop} {p : Prop} [Decidable p] {x y x' y' : α} (hx : Q x x') (hy : Q y y') :
    Q (if p then x else y) (if p then x' else y') := by
  split
  · exact hx
  · exact hy

theorem FlagSub.app_ite {α : Type} (g : α → Nat) {a : Nat} {p : Prop} [Decidable p] {x y : α}
    (hx : FlagSub a (g x)) (hy : FlagSub a (g y)) : FlagSub a (g (if p then x else y)) :=
  rel_ite (Q := fun u _ => FlagSub a (g u)) (x' := x) (y' := y) hx hy

theorem FlagSub.ite {a x y : Nat} {p : Prop} [Decidable p] (h1 : FlagSub a x) (h2 : FlagSub a y) : FlagSub a (if p then x else y) :=
  FlagSub.app_ite id h1 h2

theorem flagSub_iff_testBit (a b : Nat) : FlagSub a b ↔ ∀ i, a.testBit i = true → b.testBit i = true := by
  unfold FlagSub
  constructor
  · intro h i hi
    rw [← h, Nat.testBit_and] at hi
    simp only [Bool.and_eq_true] at hi
    exact hi.2
  · intro h
    apply Nat.eq_of_testBit_eq
    intro i
    rw [Nat.testBit_and]
    cases hi : a.testBit i
    · simp
    · simp [h i hi]

theorem FlagSub.hasFlag {a b : Nat} (h : FlagSub a b) (bit : Nat) (hb : hasFlag a bit = true) : hasFlag b bit = true := by
  unfold Htp.hasFlag at *
  rw [bne_iff_ne] at hb ⊢
  intro h0
  exact hb (by rw [h.and_eq, h0, Nat.and_zero])

/-- one step of `flag_mono`; each flag-threading function adds its rule -/
syntax "flag_step" : tactic
macro_rules | `(tactic| flag_step) => `(tactic| apply FlagSub.setFlag)
macro_rules | `(tactic| flag_step) => `(tactic| apply FlagSub.or_right)
macro_rules | `(tactic| flag_step) => `(tactic| apply FlagSub.ite)

/-- closes goals `FlagSub f (.. (f ||| A) ||| B ..)`, through the flag-threading functions registered with `flag_step` -/
macro "flag_mono" : tactic =>
  `(tactic| ((with_reducible repeat (first | exact FlagSub.refl _ | assumption | flag_step)); done))

example (f A B : Nat) : FlagSub f (setFlag (f ||| A) B ||| A) := by flag_mono

end Htp
