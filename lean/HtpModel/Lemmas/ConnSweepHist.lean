/- The walk of Lemmas/ConnSweep.lean and Lemmas/ConnSweepOut.lean over whole call histories: every part of a call is `Calls`
   (`calls_runPart`), hence every call of the embedder (`calls_runCall`), every history (`calls_runCalls`) and the rest of a history
   after a prefix (`calls_prefix`). The theorems over histories of the single families read their coordinate off these, the per-transaction
   families through `history_txCont`. -/
import HtpModel.Lemmas.ConnSweepOut
namespace Htp.Conn
open Htp Htp.Gen

theorem keeps_markClosedIn {m : Nat} (c : Conn) : Keeps m c (markClosedIn c) :=
  markClosedIn_cases c (fun _ => .refl c) fun _ => .same rfl

theorem keeps_markClosedOut {m : Nat} (c : Conn) : Keeps m c (markClosedOut c) :=
  markClosedOut_cases c (fun _ => .refl c) fun _ => .same rfl

theorem calls_runPart (cfg : Cfg) (c : Conn) (s : Part) : Calls cfg.maxTx c (runPart cfg c s) := by
  cases s with
  | req data len => exact calls_reqData ..
  | res data len => exact calls_resData ..
  | markIn => exact (keeps_markClosedIn c).within.calls
  | markOut => exact (keeps_markClosedOut c).within.calls
  | «open» => exact (keeps_connOpen c).within.calls
  | txFreed => exact (within_txFreedLoop _ c 0).calls

theorem calls_runCall (cfg : Cfg) (c : Conn) (call : Call) : Calls cfg.maxTx c (runCall cfg c call) :=
  runCall_rel_of_parts Calls.refl Calls.trans (calls_runPart cfg) c call

theorem calls_runCalls (cfg : Cfg) (c : Conn) (calls : List Call) : Calls cfg.maxTx c (runCalls cfg c calls) :=
  runCalls_rel Calls.refl Calls.trans (calls_runCall cfg) c calls

theorem calls_prefix (cfg : Cfg) (c0 : Conn) {pre calls : List Call} (hp : pre <+: calls) :
    Calls cfg.maxTx (runCalls cfg c0 pre) (runCalls cfg c0 calls) := by
  obtain ⟨suf, rfl⟩ := hp
  rw [runCalls_append]
  exact calls_runCalls cfg _ suf

theorem history_txCont (cfg : Cfg) (c0 : Conn) (h0 : Hyg c0) (calls pre : List Call) (hp : pre <+: calls) {u : Nat} {t t' : Tx}
    (h1 : (runCalls cfg c0 pre).findTx u = some t) (h2 : (runCalls cfg c0 calls).findTx u = some t') : TxCont t t' :=
  (calls_prefix cfg c0 hp).tx.find ((calls_runCalls cfg c0 pre).tx.hyg h0) h1 h2

end Htp.Conn
