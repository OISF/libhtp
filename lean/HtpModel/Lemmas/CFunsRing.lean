/- The seven functions of libhtp's array-backed ring buffer (htp_list.c), as translated in HtpModel/Gen/CFuns.lean,
   compute the hand-written model `Htp.Ring` (HtpModel/Prim/Ring.lean) on the fields of every well-formed
   ring whose capacity is below 2^62; and, run in sequence, they compute what a double-ended sequence returns. -/
import HtpModel.Lemmas.CFunsBase
import HtpModel.Lemmas.Ring
namespace Htp.CFuns
open Htp Htp.CSem Htp.Gen.C Htp.Ring
set_option linter.unusedSimpArgs false
set_option linter.unusedVariables false

/- the capacity bound 4611686018427387904 = 2^62: `max_size * 2`, `first + idx`, `current_size + 1` stay inside size_t -/

theorem u64_sub (a b : Nat) (hb : b ≤ a) (h : a < 18446744073709551616) : u64 ((a : Int) - b) = ((a - b : Nat) : Int) := by
  rw [u64_id] <;> omega

theorem u64_pred (a : Nat) (h0 : 0 < a) (h : a < 18446744073709551616) : u64 ((a : Int) - 1) = ((a - 1 : Nat) : Int) := by
  rw [u64_id] <;> omega

theorem rdM_getD (m : List Int) (n : Nat) (h : n < m.length) : rdM m (n : Int) = some (m.getD n 0) := by
  simp [rdM_nat, h]

theorem memcpyM_nat (dst src : List Int) (d s n : Nat) (hs : s + n ≤ src.length) (hd : d + n ≤ dst.length) :
    memcpyM dst d src s n = some (dst.take d ++ (src.drop s).take n ++ dst.drop (d + n)) := by
  have c : ¬ ((d : Int) < 0 ∨ (s : Int) < 0 ∨ (n : Int) < 0) := by omega
  simp [memcpyM, c, hs, hd]

theorem outcome_map_ret {σ : Type} (x : Option Int) (s : σ) : outcome (x.map (Ctl.ret s)) = x.map (·, s) := by
  cases x <;> rfl

theorem htp_list_array_get_full (fuel : Nat) (r : Ring Int) (w : WF r) (hb : r.maxSize < 4611686018427387904) (i : Nat) :
    htp_list_array_get fuel (l_elements := r.elems) (idx := i) (l_first := r.first) (l_max_size := r.maxSize)
        (l_current_size := r.curSize)
      = some ((get r i).getD 0,
          { idx := i, l_first := r.first, l_max_size := r.maxSize, l_current_size := r.curSize, l_elements := r.elems }) := by
  have hp := w.pos; have hl := w.len; have hf := w.first_lt; have hc := w.cur_le
  simp [htp_list_array_get, htp_list_array_get_stmt, run_outcome, iteS_bind, retS, outcome_map_ret]
  unfold Ring.get slot
  split
  · rfl
  · simp only [u64_add r.first i (by omega), u64_sub r.maxSize r.first (by omega) (by omega), Int.ofNat_lt]
    split
    · rw [rdM_getD _ _ (by omega)]; rfl
    · rw [u64_sub _ _ (by omega) (by omega), rdM_getD _ _ (by omega)]; rfl

/-- every index; NULL = 0 when the model has none -/
theorem htp_list_array_get_eq (fuel : Nat) (r : Ring Int) (w : WF r) (hb : r.maxSize < 4611686018427387904) (i : Nat) :
    (htp_list_array_get fuel (l_elements := r.elems) (idx := i) (l_first := r.first) (l_max_size := r.maxSize)
        (l_current_size := r.curSize)).map (·.1)
      = some (match get r i with | some v => v | none => 0) := by
  rw [htp_list_array_get_full fuel r w hb i]
  cases get r i <;> rfl

theorem htp_list_array_size_eq (fuel : Nat) (r : Ring Int) :
    htp_list_array_size fuel (l_current_size := r.curSize) = some ((size r : Int), { l_current_size := r.curSize }) := by
  simp [htp_list_array_size, htp_list_array_size_stmt, run_outcome, iteS_bind, retS, size]

theorem htp_list_array_clear_eq (fuel : Nat) (r : Ring Int) :
    htp_list_array_clear fuel (l_current_size := r.curSize) (l_first := r.first) (l_last := r.last)
      = some (0, { l_current_size := (clear r).curSize, l_first := (clear r).first, l_last := (clear r).last }) := by
  simp [htp_list_array_clear, htp_list_array_clear_stmt, run_outcome, iteS_bind, retS, assignS, clear]

theorem htp_list_array_pop_eq (fuel : Nat) (r : Ring Int) (w : WF r) (hb : r.maxSize < 4611686018427387904) :
    ∃ s, htp_list_array_pop fuel (l_elements := r.elems) (l_current_size := r.curSize) (l_first := r.first) (l_last := r.last)
        (l_max_size := r.maxSize) = some (((pop r).2).getD 0, s) ∧
      s.l_first = (pop r).1.first ∧ s.l_last = (pop r).1.last ∧ s.l_max_size = (pop r).1.maxSize ∧
      s.l_current_size = (pop r).1.curSize ∧ s.l_elements = (pop r).1.elems := by
  have hp := w.pos; have hl := w.len; have hf := w.first_lt; have hc := w.cur_le
  simp [htp_list_array_pop, htp_list_array_pop_stmt, run_outcome, iteS_bind, retS, assignS, Option.bind_assoc, outcome_bind_ret]
  unfold pop
  split
  · exact ⟨_, rfl, rfl, rfl, rfl, rfl, rfl⟩
  · simp only [u64_add r.first r.curSize (by omega), u64_pred r.maxSize hp (by omega),
      u64_pred (r.first + r.curSize) (by omega) (by omega), u64_pred r.curSize (by omega) (by omega), Int.ofNat_lt]
    split
    · rw [u64_sub _ _ (by omega) (by omega), rdM_getD _ _ (by omega)]
      exact ⟨_, rfl, rfl, rfl, rfl, rfl, rfl⟩
    · rw [rdM_getD _ _ (by omega)]
      exact ⟨_, rfl, rfl, rfl, rfl, rfl, rfl⟩

theorem htp_list_array_shift_eq (fuel : Nat) (r : Ring Int) (w : WF r) (hb : r.maxSize < 4611686018427387904) :
    ∃ s, htp_list_array_shift fuel (l_elements := r.elems) (l_current_size := r.curSize) (l_first := r.first)
        (l_max_size := r.maxSize) = some (((shift r).2).getD 0, s) ∧
      s.l_first = (shift r).1.first ∧ s.l_max_size = (shift r).1.maxSize ∧
      s.l_current_size = (shift r).1.curSize ∧ s.l_elements = (shift r).1.elems := by
  have hp := w.pos; have hl := w.len; have hf := w.first_lt; have hc := w.cur_le
  simp [htp_list_array_shift, htp_list_array_shift_stmt, run_outcome, iteS_bind, retS, assignS, Option.bind_assoc]
  unfold shift
  split
  · exact ⟨_, rfl, rfl, rfl, rfl, rfl⟩
  · simp only [rdM_getD _ _ (show r.first < r.elems.length by omega), u64_succ r.first (by omega),
      u64_pred r.curSize (by omega) (by omega), Int.natCast_inj, Option.bind_some]
    split
    · exact ⟨_, rfl, rfl, rfl, rfl, rfl⟩
    · exact ⟨_, rfl, rfl, rfl, rfl, rfl⟩

/-- every index: the range test is `idx >= current_size` (the repair of S43), so nothing wraps before it -/
theorem htp_list_array_replace_eq (fuel : Nat) (r : Ring Int) (w : WF r) (hb : r.maxSize < 4611686018427387904)
    (i : Nat) (e : Int) :
    ∃ s, htp_list_array_replace fuel (l_elements := r.elems) (idx := i) (e := e) (l_current_size := r.curSize) (l_first := r.first)
        (l_max_size := r.maxSize) = some (if (replace r i e).2 then 1 else 0, s) ∧
      s.l_first = (replace r i e).1.first ∧ s.l_max_size = (replace r i e).1.maxSize ∧
      s.l_current_size = (replace r i e).1.curSize ∧ s.l_elements = (replace r i e).1.elems := by
  have hp := w.pos; have hl := w.len; have hf := w.first_lt; have hc := w.cur_le
  simp [htp_list_array_replace, htp_list_array_replace_stmt, run_outcome, iteS_bind, retS, assignS, Option.bind_assoc, outcome_bind_ret]
  unfold replace
  by_cases h : r.curSize ≤ i
  · rw [if_pos h, if_pos (show i + 1 > r.curSize by omega)]
    exact ⟨_, rfl, rfl, rfl, rfl, rfl⟩
  · have hm := Nat.mod_lt (r.first + i) hp
    have e3 : u64 (Int.tmod (u64 (r.first + i)) r.maxSize) = (((r.first + i) % r.maxSize : Nat) : Int) := by
      rw [u64_add _ _ (by omega), Int.tmod_eq_emod_of_nonneg (by omega), ← Int.natCast_emod, u64_nat _ (by omega)]
    rw [if_neg h, if_neg (show ¬ i + 1 > r.curSize by omega), e3, wrM_nat _ _ _ (by omega)]
    exact ⟨_, rfl, rfl, rfl, rfl, rfl⟩

/-- the two `memcpy` calls of the growth step with `first ≠ 0`: the elements from `first` on go to the front of the new block, those
    before `first` behind them -/
theorem memcpy_grow (m : List Int) (f n2 : Nat) (hf : f ≤ m.length) (hn : m.length ≤ n2) :
    ((memcpyM (List.replicate n2 0) 0 m f (m.length - f : Nat)).bind fun y => memcpyM y (m.length - f : Nat) m 0 f)
      = some (m.drop f ++ m.take f ++ List.replicate (n2 - m.length) 0) := by
  have h1 := memcpyM_nat (List.replicate n2 0) m 0 f (m.length - f) (by omega) (by simp; omega)
  have h2 := memcpyM_nat (m.drop f ++ List.replicate (n2 - (m.length - f)) 0) m (m.length - f) 0 f (by omega) (by simp; omega)
  have hd : n2 - (m.length - f) - f = n2 - m.length := by omega
  simp [List.take_of_length_le, List.drop_append, List.take_append, hd] at h1 h2
  simp [h1, h2]
  omega

theorem htp_list_array_push_eq (fuel : Nat) (r : Ring Int) (w : WF r) (hb : r.maxSize < 4611686018427387904) (e : Int) :
    ∃ s, htp_list_array_push fuel (l_elements := r.elems) (e := e) (l_current_size := r.curSize) (l_first := r.first)
        (l_last := r.last) (l_max_size := r.maxSize) (alloc_ok := 1) = some (1, s) ∧
      s.l_first = (push r e).first ∧ s.l_last = (push r e).last ∧ s.l_max_size = (push r e).maxSize ∧
      s.l_current_size = (push r e).curSize ∧ s.l_elements = (push r e).elems := by
  have hp := w.pos; have hl := w.len; have hf := w.first_lt; have hc := w.cur_le; have hla := w.last_eq
  simp [htp_list_array_push, htp_list_array_push_stmt, run_outcome, iteS_bind, retS, assignS, Option.bind_assoc]
  -- `dsimp` also unfolds inside the `Decidable` instances of the model's tests, so that `split` decides them with the translated ones
  dsimp only [push, pushCore, grow]
  have e1 := u64_succ r.curSize (by omega)
  split
  · have en : u64 ((r.maxSize : Int) * 2) = ((r.maxSize * 2 : Nat) : Int) := by rw [u64_id] <;> omega
    simp only [en, e1, Int.toNat_natCast, Int.natCast_inj]
    split
    · have er : resizeM r.elems (r.maxSize * 2) = r.elems ++ List.replicate (r.maxSize * 2 - r.maxSize) default := by
        unfold resizeM
        rw [List.take_of_length_le (by omega), hl]; rfl
      rw [er, wrM_nat _ _ _ (by simp; omega)]
      simp only [Option.bind_some]
      split
      · exact ⟨_, rfl, rfl, rfl, rfl, rfl, rfl⟩
      · exact ⟨_, rfl, rfl, rfl, rfl, rfl, rfl⟩
    · rw [← hl, u64_sub _ _ (by omega) (by omega), ← Option.bind_assoc, memcpy_grow _ _ _ (by omega) (by omega)]
      simp only [Option.bind_some]
      rw [wrM_nat _ _ _ (by simp; omega)]
      simp only [Option.bind_some, hl]
      split
      · exact ⟨_, rfl, rfl, rfl, rfl, rfl, rfl⟩
      · exact ⟨_, rfl, rfl, rfl, rfl, rfl, rfl⟩
  · have hlast : r.last < r.maxSize := by rw [hla]; split <;> omega
    simp only [wrM_nat _ _ _ (show r.last < r.elems.length by omega), u64_succ r.last (by omega), e1, Int.natCast_inj,
      Option.bind_some]
    split
    · exact ⟨_, rfl, rfl, rfl, rfl, rfl, rfl⟩
    · exact ⟨_, rfl, rfl, rfl, rfl, rfl, rfl⟩

theorem htp_list_array_push_nomem (fuel : Nat) (r : Ring Int) (w : WF r) (hb : r.maxSize < 4611686018427387904) (e : Int)
    (hfull : r.curSize = r.maxSize) :
    ∃ s, htp_list_array_push fuel (l_elements := r.elems) (e := e) (l_current_size := r.curSize) (l_first := r.first)
        (l_last := r.last) (l_max_size := r.maxSize) (alloc_ok := 0) = some (-1, s) ∧
      s.l_first = r.first ∧ s.l_last = r.last ∧ s.l_max_size = r.maxSize ∧
      s.l_current_size = r.curSize ∧ s.l_elements = r.elems := by
  simp [htp_list_array_push, htp_list_array_push_stmt, run_outcome, iteS_bind, retS, assignS, hfull]

theorem htp_list_array_push_room (fuel : Nat) (r : Ring Int) (w : WF r) (hb : r.maxSize < 4611686018427387904) (e a : Int)
    (hroom : r.curSize < r.maxSize) :
    (htp_list_array_push fuel (l_elements := r.elems) (e := e) (l_current_size := r.curSize) (l_first := r.first)
        (l_last := r.last) (l_max_size := r.maxSize) (alloc_ok := a)).map (·.1) = some 1 := by
  have hl := w.len; have hf := w.first_lt; have hla := w.last_eq
  have hlast : r.last < r.elems.length := by rw [hla]; split <;> omega
  simp [htp_list_array_push, htp_list_array_push_stmt, run_outcome, iteS_bind, retS, assignS, Option.bind_assoc, Nat.not_le.2 hroom,
    wrM_nat _ _ _ hlast, -seqS_assignS_ite]
  split <;> exact ⟨_, rfl⟩

/-! `idx = SIZE_MAX` in htp_list_array_replace (finding S43, repaired in /repo)

Before the repair the range test was `idx + 1 > current_size`: for `idx = SIZE_MAX` the sum wraps to 0, the test fails, the function
stored into slot `(first + idx) % max_size` (inside the array, because of the `%`) and answered HTP_OK, where the model (and the contract
of an indexed replace) decline; `htp_list_array_replace_eq` needed the bound `i < SIZE_MAX`, and the excluded point, run on the real
library, overwrote an element. With the test `idx >= current_size` (as htp_list_array_get has it) the translated code declines there too: -/
theorem htp_list_array_replace_sizemax :
    (htp_list_array_replace 0 (l_elements := [30, 10, 20]) (idx := 18446744073709551615) (e := 77) (l_current_size := 2)
        (l_first := 1) (l_max_size := 3)).map (fun p => (p.1, p.2.l_elements)) = some (0, [30, 10, 20]) ∧
    (let m := replace ({ first := 1, last := 0, maxSize := 3, curSize := 2, elems := [30, 10, 20] } : Ring Int)
        18446744073709551615 77
     (m.2, m.1.elems)) = (false, [30, 10, 20]) := by
  constructor
  · decide
  · decide

/-- the fields of `htp_list_array_t` as the translated functions see them -/
structure Flds where
  first : Int
  last : Int
  maxSize : Int
  curSize : Int
  elems : List Int
  deriving Repr, DecidableEq

def fieldsOf (r : Ring Int) : Flds :=
  { first := r.first, last := r.last, maxSize := r.maxSize, curSize := r.curSize, elems := r.elems }

/-- the model ring a translated state stands for -/
def ringOf (f : Flds) : Ring Int :=
  { first := f.first.toNat, last := f.last.toNat, maxSize := f.maxSize.toNat, curSize := f.curSize.toNat, elems := f.elems }

@[simp] theorem ringOf_fieldsOf (r : Ring Int) : ringOf (fieldsOf r) = r := by
  simp [ringOf, fieldsOf]

/-- operations of the list API (elements are opaque pointer values) -/
inductive COp where
  | push (e : Int) | pop | shift | get (i : Nat) | replace (i : Nat) (e : Int) | clear | size

/-- no operation needs a side condition (before the repair of S43 `replace` needed `i < SIZE_MAX`, see `htp_list_array_replace_sizemax`) -/
def COp.ok : COp → Prop
  | _ => True

/-- one call of the translated function (allocation succeeds): the new fields and the value returned -/
def stepC (f : Flds) : COp → Option (Flds × Int)
  | .push e =>
    (htp_list_array_push 0 (l_elements := f.elems) (e := e) (l_current_size := f.curSize) (l_first := f.first) (l_last := f.last)
      (l_max_size := f.maxSize) (alloc_ok := 1)).map fun p =>
        ({ first := p.2.l_first, last := p.2.l_last, maxSize := p.2.l_max_size, curSize := p.2.l_current_size,
           elems := p.2.l_elements }, p.1)
  | .pop =>
    (htp_list_array_pop 0 (l_elements := f.elems) (l_current_size := f.curSize) (l_first := f.first) (l_last := f.last)
      (l_max_size := f.maxSize)).map fun p =>
        ({ first := p.2.l_first, last := p.2.l_last, maxSize := p.2.l_max_size, curSize := p.2.l_current_size,
           elems := p.2.l_elements }, p.1)
  | .shift =>
    (htp_list_array_shift 0 (l_elements := f.elems) (l_current_size := f.curSize) (l_first := f.first)
      (l_max_size := f.maxSize)).map fun p =>
        ({ first := p.2.l_first, last := f.last, maxSize := p.2.l_max_size, curSize := p.2.l_current_size,
           elems := p.2.l_elements }, p.1)
  | .get i =>
    (htp_list_array_get 0 (l_elements := f.elems) (idx := i) (l_current_size := f.curSize) (l_first := f.first)
      (l_max_size := f.maxSize)).map fun p =>
        ({ first := p.2.l_first, last := f.last, maxSize := p.2.l_max_size, curSize := p.2.l_current_size,
           elems := p.2.l_elements }, p.1)
  | .replace i e =>
    (htp_list_array_replace 0 (l_elements := f.elems) (idx := i) (e := e) (l_current_size := f.curSize) (l_first := f.first)
      (l_max_size := f.maxSize)).map fun p =>
        ({ first := p.2.l_first, last := f.last, maxSize := p.2.l_max_size, curSize := p.2.l_current_size,
           elems := p.2.l_elements }, p.1)
  | .clear =>
    (htp_list_array_clear 0 (l_current_size := f.curSize) (l_first := f.first) (l_last := f.last)).map fun p =>
        ({ first := p.2.l_first, last := p.2.l_last, maxSize := f.maxSize, curSize := p.2.l_current_size,
           elems := f.elems }, p.1)
  | .size =>
    (htp_list_array_size 0 (l_current_size := f.curSize)).map fun p =>
        ({ first := f.first, last := f.last, maxSize := f.maxSize, curSize := p.2.l_current_size, elems := f.elems }, p.1)

/-- the model's operation with the C encoding of its result: a missing element is NULL = 0, HTP_OK = 1, HTP_DECLINED = 0,
    `void` is 0 -/
def stepM (r : Ring Int) : COp → Ring Int × Int
  | .push e => (push r e, 1)
  | .pop => ((pop r).1, (pop r).2.getD 0)
  | .shift => ((shift r).1, (shift r).2.getD 0)
  | .get i => (r, (get r i).getD 0)
  | .replace i e => ((replace r i e).1, if (replace r i e).2 then 1 else 0)
  | .clear => (clear r, 0)
  | .size => (r, (size r : Int))

theorem cring_step (r : Ring Int) (w : WF r) (hb : r.maxSize < 4611686018427387904) (o : COp) (ho : o.ok) :
    stepC (fieldsOf r) o = some (fieldsOf (stepM r o).1, (stepM r o).2) := by
  cases o with
  | push e =>
    obtain ⟨s, heq, h1, h2, h3, h4, h5⟩ := htp_list_array_push_eq 0 r w hb e
    simp only [stepC, fieldsOf, stepM, heq, Option.map_some, h1, h2, h3, h4, h5]
  | pop =>
    obtain ⟨s, heq, h1, h2, h3, h4, h5⟩ := htp_list_array_pop_eq 0 r w hb
    simp only [stepC, fieldsOf, stepM, heq, Option.map_some, h1, h2, h3, h4, h5]
  | shift =>
    obtain ⟨s, heq, h1, h3, h4, h5⟩ := htp_list_array_shift_eq 0 r w hb
    have hl : (shift r).1.last = r.last := by unfold shift; split <;> rfl
    simp only [stepC, fieldsOf, stepM, heq, Option.map_some, h1, h3, h4, h5, hl]
  | get i =>
    simp only [stepC, fieldsOf, stepM, htp_list_array_get_full 0 r w hb i, Option.map_some]
  | replace i e =>
    obtain ⟨s, heq, h1, h3, h4, h5⟩ := htp_list_array_replace_eq 0 r w hb i e
    have hl : (replace r i e).1.last = r.last := by unfold replace; split <;> rfl
    simp only [stepC, fieldsOf, stepM, heq, Option.map_some, h1, h3, h4, h5, hl]
  | clear =>
    simp only [stepC, fieldsOf, stepM, htp_list_array_clear_eq 0 r, Option.map_some]
    rfl
  | size =>
    simp only [stepC, fieldsOf, stepM, htp_list_array_size_eq 0 r, Option.map_some]

def runC (f : Flds) : List COp → Option (Flds × List Int)
  | [] => some (f, [])
  | o :: os => (stepC f o).bind fun p => (runC p.1 os).map fun q => (q.1, p.2 :: q.2)

def runM (r : Ring Int) : List COp → Ring Int × List Int
  | [] => (r, [])
  | o :: os => ((runM (stepM r o).1 os).1, (stepM r o).2 :: (runM (stepM r o).1 os).2)

/-- the abstract type: a double-ended sequence, results in the C encoding -/
def stepS (l : List Int) : COp → List Int × Int
  | .push e => (l ++ [e], 1)
  | .pop => (l.dropLast, l.getLast?.getD 0)
  | .shift => (l.tail, l.head?.getD 0)
  | .get i => (l, l[i]?.getD 0)
  | .replace i e => (if i < l.length then l.set i e else l, if i < l.length then 1 else 0)
  | .clear => ([], 0)
  | .size => (l, (l.length : Int))

def runS (l : List Int) : List COp → List Int × List Int
  | [] => (l, [])
  | o :: os => ((runS (stepS l o).1 os).1, (stepS l o).2 :: (runS (stepS l o).1 os).2)

/-- capacity and length grow by at most "one element" per operation: capacity ≤ 2K and length ≤ K are kept with K + 1 -/
theorem stepM_growth (r : Ring Int) (w : WF r) (K : Nat) (h1 : r.maxSize ≤ 2 * K) (h2 : r.curSize ≤ K) (o : COp) :
    (stepM r o).1.maxSize ≤ 2 * (K + 1) ∧ (stepM r o).1.curSize ≤ K + 1 := by
  have hc := w.cur_le
  cases o with
  | push e =>
    simp only [stepM, push, pushCore]
    by_cases h : r.curSize ≥ r.maxSize
    · simp only [h, if_true, grow]; omega
    · simp only [h, if_false]; omega
  | pop => simp only [stepM, pop]; split <;> simp only [] <;> omega
  | shift => simp only [stepM, shift]; split <;> simp only [] <;> omega
  | get i => simp only [stepM]; omega
  | replace i e => simp only [stepM, replace]; split <;> simp only [] <;> omega
  | clear => simp only [stepM, clear]; omega
  | size => simp only [stepM]; omega

theorem stepM_spec (r : Ring Int) (w : WF r) (o : COp) :
    (stepM r o).2 = (stepS (abs r) o).2 ∧ abs (stepM r o).1 = (stepS (abs r) o).1 ∧ WF (stepM r o).1 := by
  cases o with
  | push e => exact ⟨rfl, abs_push r w e, push_wf r w e⟩
  | pop => have h := pop_spec r w; exact ⟨by simp only [stepM, stepS, h.2], by simp only [stepM, stepS, h.1], pop_wf r w⟩
  | shift => have h := shift_spec r w; exact ⟨by simp only [stepM, stepS, h.2], by simp only [stepM, stepS, h.1], shift_wf r w⟩
  | get i => exact ⟨by simp only [stepM, stepS, get_eq], rfl, w⟩
  | replace i e =>
    have h := replace_spec r w i e
    refine ⟨?_, by simp only [stepM, stepS, h.2, abs_length], replace_wf r w i e⟩
    simp only [stepM, stepS, h.1, abs_length, decide_eq_true_eq]
  | clear => exact ⟨rfl, by simp only [stepM, stepS, abs_clear], clear_wf r w⟩
  | size => exact ⟨by simp only [stepM, stepS, size, abs_length], rfl, w⟩

/-- the capacity stays below 2^62 because of `K + ops.length < 2^61`, the ring starting with capacity ≤ 2K and length ≤ K -/
theorem cring_run (ops : List COp) : ∀ (r : Ring Int) (w : WF r) (K : Nat) (h1 : r.maxSize ≤ 2 * K) (h2 : r.curSize ≤ K)
    (hok : ∀ o ∈ ops, o.ok) (hK : K + ops.length < 2305843009213693952),
    runC (fieldsOf r) ops = some (fieldsOf (runM r ops).1, (runM r ops).2) ∧ WF (runM r ops).1 := by
  induction ops with
  | nil => intro r w K h1 h2 hok hK; exact ⟨rfl, w⟩
  | cons o os ih =>
    intro r w K h1 h2 hok hK
    have hlen : (o :: os).length = os.length + 1 := rfl
    have hs := cring_step r w (by omega) o (hok o (List.mem_cons_self ..))
    have w' := (stepM_spec r w o).2.2
    obtain ⟨g1, g2⟩ := stepM_growth r w K h1 h2 o
    obtain ⟨hr, w''⟩ := ih (stepM r o).1 w' (K + 1) g1 g2 (fun o' ho' => hok o' (List.mem_cons_of_mem _ ho')) (by omega)
    refine ⟨?_, w''⟩
    simp only [runC, hs, Option.bind_some, hr, Option.map_some, runM]

theorem runM_spec (ops : List COp) : ∀ (r : Ring Int) (w : WF r),
    (runM r ops).2 = (runS (abs r) ops).2 ∧ abs (runM r ops).1 = (runS (abs r) ops).1 := by
  induction ops with
  | nil => intro r w; exact ⟨rfl, rfl⟩
  | cons o os ih =>
    intro r w
    obtain ⟨a1, a2, w'⟩ := stepM_spec r w o
    obtain ⟨b1, b2⟩ := ih (stepM r o).1 w'
    simp only [runM, runS, a1, b1, b2, a2, and_self]

/-- **C17 (list), translated code**: starting from `htp_list_array_create(n)`, every sequence of calls of the translated
    htp_list_array_* functions (allocation succeeding, `n + |ops| < 2^61`) returns exactly what a double-ended sequence returns, ends
    in fields that are a well-formed ring, and that ring stands for the sequence's final value. `hok` restricts nothing: `COp.ok` is
    `True` for every operation (see there) -/
theorem cring_sim_fresh (n : Nat) (hn : 0 < n) (ops : List COp) (hok : ∀ o ∈ ops, o.ok)
    (hK : n + ops.length < 2305843009213693952) :
    ∃ f, runC (fieldsOf (create n)) ops = some (f, (runS [] ops).2) ∧ WF (ringOf f) ∧ abs (ringOf f) = (runS [] ops).1 := by
  have w : WF (create n : Ring Int) := create_wf n hn
  obtain ⟨hr, w'⟩ := cring_run ops (create n) w n (by simp only [create]; omega) (by simp only [create]; omega) hok hK
  obtain ⟨s1, s2⟩ := runM_spec ops (create n) w
  rw [abs_create] at s1 s2
  exact ⟨_, by rw [hr, s1], by rw [ringOf_fieldsOf]; exact w', by rw [ringOf_fieldsOf]; exact s2⟩

/-- non-vacuity: the translated functions run through growth with `first ≠ 0` (two memcpy), wrap-around, pop, shift, replace, get -/
example : (runC (fieldsOf (create 2))
    [.push 11, .push 12, .shift, .push 13, .push 14, .pop, .replace 1 19, .get 1, .get 5, .size]).map (·.2)
    = some [1, 1, 11, 1, 1, 14, 1, 19, 0, 2] := by
  decide

end Htp.CFuns
