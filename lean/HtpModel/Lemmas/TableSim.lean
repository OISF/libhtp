/- Refinement of the table (htp_table.c over htp_list) to an insertion-ordered first-match multimap (Props/C17); the cost lemmas of Lemmas/Cost.lean stand on it. -/
import HtpModel.Prim.Table
import HtpModel.Lemmas.Ring
namespace Htp.Table
open Htp Htp.Ring

/-- what the lookup loop returns on the slot sequence it walks: the value behind the first key that matches -/
def slotsFind (m : Bytes → Bool) : List Slot → Option Nat
  | [] => none
  | [_] => none
  | s :: v :: rest =>
    match s with
    | .key k => if m k then (match v with | .val x => some x | _ => none) else slotsFind m rest
    | _ => slotsFind m rest

theorem loop_view (t : Table) (i : Nat) :
    (i < Ring.size t.list ↔ (Ring.abs t.list).drop i ≠ []) ∧
    keyAt t i = (match (Ring.abs t.list).drop i with | .key k :: _ => some k | _ => none) ∧
    valAt t (i + 1) = (match (Ring.abs t.list).drop i with | _ :: .val v :: _ => some v | _ => none) := by
  have h0 : (Ring.abs t.list)[i]? = ((Ring.abs t.list).drop i)[0]? := by simp
  have h1 : (Ring.abs t.list)[i + 1]? = ((Ring.abs t.list).drop i)[1]? := by simp
  refine ⟨by simp [Ring.size], ?_, ?_⟩
  · rw [keyAt, Ring.get_eq, h0]
    cases (Ring.abs t.list).drop i with
    | nil => rfl
    | cons s r => cases s <;> rfl
  · rw [valAt, Ring.get_eq, h1]
    match (Ring.abs t.list).drop i with
    | [] => rfl
    | [_] => rfl
    | _ :: v :: _ => cases v <;> rfl

theorem getLoop_abs (m : Bytes → Bool) (t : Table) (fuel i : Nat) (hf : (Ring.abs t.list).length ≤ i + 2 * fuel) :
    getLoop m t fuel i = slotsFind m ((Ring.abs t.list).drop i) := by
  induction fuel generalizing i with
  | zero => rw [List.drop_of_length_le (by omega)]; rfl
  | succ k ih =>
    have ihh := ih (i + 2) (by omega)
    obtain ⟨hs, hk, hv⟩ := loop_view t i
    rw [← List.drop_drop] at ihh
    simp only [getLoop, hs, hk, hv, ihh]
    match (Ring.abs t.list).drop i with
    | [] => rfl
    | [s] => cases s <;> simp [slotsFind]
    | s :: v :: rest => cases s <;> cases v <;> simp [slotsFind]

/-- the insertion-ordered association list a table stands for: first match, in insertion order -/
def assocFind (m : Bytes → Bool) : List (Bytes × Nat) → Option Nat
  | [] => none
  | (k, v) :: rest => if m k then some v else assocFind m rest

def slotsOfPairs : List (Bytes × Nat) → List Slot
  | [] => []
  | (k, v) :: rest => .key k :: .val v :: slotsOfPairs rest

theorem slotsFind_pairs (m : Bytes → Bool) (ps : List (Bytes × Nat)) : slotsFind m (slotsOfPairs ps) = assocFind m ps := by
  induction ps with
  | nil => rfl
  | cons p rest ih =>
    obtain ⟨k, v⟩ := p
    simp only [slotsOfPairs, slotsFind, assocFind]
    split
    · rfl
    · exact ih

/-- the representation invariant: the table `t` stands for the association list `ps` - its ring is well-formed and holds the pairs of
    `ps` as alternating key and value slots, in insertion order; its allocation mode is `unknown` or `copied`. (`Table.abs`, Prim/Table.lean, is the inverse
    reading and is not used by the lemmas: state facts against `ps`.) -/
structure PInv (t : Table) (ps : List (Bytes × Nat)) : Prop where
  wf : WF t.list
  abs : Ring.abs t.list = slotsOfPairs ps
  alloc : t.alloc = .unknown ∨ t.alloc = .copied

theorem slotsOfPairs_append (a : List (Bytes × Nat)) (k : Bytes) (v : Nat) :
    slotsOfPairs (a ++ [(k, v)]) = slotsOfPairs a ++ [.key k, .val v] := by
  induction a with
  | nil => rfl
  | cons x t ih => obtain ⟨k', v'⟩ := x; simp [slotsOfPairs, ih]

theorem add_pinv (t : Table) (ps : List (Bytes × Nat)) (k : Bytes) (v : Nat) (hi : PInv t ps) :
    PInv (add t k v).1 (ps ++ [(k, v)]) ∧ (add t k v).2 = true := by
  have key : ∀ t' : Table, WF t'.list → Ring.abs t'.list = slotsOfPairs ps → (t'.alloc = .unknown ∨ t'.alloc = .copied) →
      PInv (rawAdd t' k v) (ps ++ [(k, v)]) := by
    intro t' w a al
    refine ⟨push_wf _ (push_wf _ w _) _, ?_, al⟩
    show Ring.abs (Ring.push (Ring.push t'.list (.key k)) (.val v)) = _
    rw [abs_push _ (push_wf _ w _), abs_push _ w, a, slotsOfPairs_append]; simp
  unfold add addWith
  rcases hi.alloc with h | h
  · simp only [h, if_true]
    exact ⟨key { t with alloc := .copied } hi.wf hi.abs (Or.inr rfl), trivial⟩
  · simp only [h]
    exact ⟨key t hi.wf hi.abs (Or.inr h), by simp⟩

/-- `Table.get` / `getC` are this loop at fuel `size` from index 0: `rw [get, getLoop_pinv _ t ps hi]`; what is left is `assocFind` with
    the match function, whose own facts (a key matches itself ..) are those of the compare functions (`C17_cmp_*`, Props/C17.lean) -/
theorem getLoop_pinv (m : Bytes → Bool) (t : Table) (ps : List (Bytes × Nat)) (hi : PInv t ps) :
    getLoop m t (Ring.size t.list) 0 = assocFind m ps := by
  rw [getLoop_abs _ t _ 0 (by simp [Ring.size]; omega), List.drop_zero, hi.abs, slotsFind_pairs]

theorem slotsOfPairs_length (ps : List (Bytes × Nat)) : (slotsOfPairs ps).length = 2 * ps.length := by
  induction ps with
  | nil => rfl
  | cons p t ih => obtain ⟨k, v⟩ := p; simp [slotsOfPairs, ih]; omega

theorem size_pinv (t : Table) (ps : List (Bytes × Nat)) (hi : PInv t ps) : size t = ps.length := by
  unfold size
  have : Ring.size t.list = (Ring.abs t.list).length := by simp [Ring.size]
  rw [this, hi.abs, slotsOfPairs_length]; omega

theorem create_pinv (cap : Nat) (hc : 0 < cap) : PInv (Table.create cap) [] := by
  refine ⟨create_wf _ (by omega), ?_, Or.inl rfl⟩
  apply List.eq_nil_of_length_eq_zero
  simp [Table.create, Ring.create]

end Htp.Table
