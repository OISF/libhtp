/- The line-level helpers of htp_util.c as translated in HtpModel/Gen/CFuns.lean = the regenerated tables / the
   hand-written model (all inputs): htp_is_lws, htp_is_text, htp_is_folding_char, htp_is_line_empty, htp_is_line_whitespace, htp_chomp. -/
import HtpModel.Lemmas.CFunsBase
import HtpModel.Conn.Parsers
namespace Htp.CFuns
open Htp Htp.CSem Htp.Gen.C Htp.Gen
set_option linter.unusedSimpArgs false

theorem htp_is_lws_int (fuel : Nat) (x : Int) :
    htp_is_lws fuel x = some (if x = 32 ∨ x = 9 then 1 else 0, { c := x }) := by
  simp [htp_is_lws, htp_is_lws_stmt, run_outcome, iteS_bind, retS]
  split <;> rfl

theorem htp_is_text_int (fuel : Nat) (x : Int) :
    htp_is_text fuel x = some (if x = 9 then 1 else if x < 32 then 0 else 1, { c := x }) := by
  simp [htp_is_text, htp_is_text_stmt, run_outcome, retS]
  repeat' split
  all_goals rfl

theorem htp_is_folding_char_int (fuel : Nat) (x : Int) :
    htp_is_folding_char fuel x = some (if x = 32 ∨ x = 9 ∨ x = 0 then 1 else 0, { c := x }) := by
  simp [htp_is_folding_char, htp_is_folding_char_stmt, run_outcome, iteS_bind, retS, htp_is_lws_int, orL_some, or_assoc]
  split <;> rfl

theorem lws_table : ∀ c : UInt8, (if ((c.toNat : Int) = 32 ∨ (c.toNat : Int) = 9) then (1 : Int) else 0) = b2i (Htp.Gen.isLws c) := by
  apply forall_uint8_of_lt
  decide +kernel

theorem text_table : ∀ c : UInt8,
    (if (c.toNat : Int) = 9 then (1 : Int) else if (c.toNat : Int) < 32 then 0 else 1) = b2i (Htp.Gen.isText c) := by
  apply forall_uint8_of_lt
  decide +kernel

theorem folding_table : ∀ c : UInt8,
    (if ((c.toNat : Int) = 32 ∨ (c.toNat : Int) = 9 ∨ (c.toNat : Int) = 0) then (1 : Int) else 0) = b2i (Htp.Gen.isFoldingChar c) := by
  apply forall_uint8_of_lt
  decide +kernel

theorem htp_is_lws_eq (fuel : Nat) (c : UInt8) :
    (htp_is_lws fuel c.toNat).map (·.1) = some (b2i (Htp.Gen.isLws c)) := by
  rw [htp_is_lws_int]; simp only [Option.map_some]; rw [lws_table]

theorem htp_is_text_eq (fuel : Nat) (c : UInt8) :
    (htp_is_text fuel c.toNat).map (·.1) = some (b2i (Htp.Gen.isText c)) := by
  rw [htp_is_text_int]; simp only [Option.map_some]; rw [text_table]

theorem htp_is_folding_char_eq (fuel : Nat) (c : UInt8) :
    (htp_is_folding_char fuel c.toNat).map (·.1) = some (b2i (Htp.Gen.isFoldingChar c)) := by
  rw [htp_is_folding_char_int]; simp only [Option.map_some]; rw [folding_table]

/-- the call with -1 ("no byte") -/
theorem htp_is_folding_char_neg1 (fuel : Nat) :
    (htp_is_folding_char fuel (-1)).map (·.1) = some (b2i Htp.Gen.isFoldingCharNeg1) := by
  rw [htp_is_folding_char_int]; rfl

theorem rd_cons_zero (a : UInt8) (t : Bytes) : rd (a :: t) 0 = some (a.toNat : Int) := rd_drop (a :: t) 0 0

theorem rd_cons_one (a b : UInt8) (t : Bytes) : rd (a :: b :: t) 1 = some (b.toNat : Int) := rd_drop (a :: b :: t) 0 1

/-- the lazy `&&` / `||` keep every read inside the array -/
theorem htp_is_line_empty_eq (fuel : Nat) (d : Bytes) :
    (htp_is_line_empty fuel d d.length).map (·.1) = some (b2i (Parse.isLineEmpty d)) := by
  unfold htp_is_line_empty
  rw [run_val]
  have e13 : ∀ x : UInt8, ((x.toNat : Int) = 13) ↔ x = 13 := fun x => toNat_int_inj x 13
  have e10 : ∀ x : UInt8, ((x.toNat : Int) = 10) ↔ x = 10 := fun x => toNat_int_inj x 10
  match d with
  | [] => simp [htp_is_line_empty_stmt, retS, andL_false, orL_some, retVal_ret, Parse.isLineEmpty, b2i]
  | [a] =>
    simp [htp_is_line_empty_stmt, retS, andL_true, andL_false, orL_some, retVal_ret, retVal_ite, Parse.isLineEmpty, b2i, rd_cons_zero,
      e13, e10, CR, LF]
    split <;> rfl
  | [a, b] =>
    simp [htp_is_line_empty_stmt, retS, andL_true, andL_false, andL_some, orL_some, retVal_ret, retVal_ite, Parse.isLineEmpty, b2i,
      rd_cons_zero, rd_cons_one, e13, e10, CR, LF]
    split <;> rfl
  | a :: b :: c :: t =>
    have l1 : ¬ ((t.length : Int) + 1 + 1 + 1 = 1) := by omega
    have l2 : ¬ ((t.length : Int) + 1 + 1 + 1 = 2) := by omega
    simp [htp_is_line_empty_stmt, retS, andL_false, orL_some, retVal_ret, Parse.isLineEmpty, b2i, l1, l2]

theorem isspaceI_byte (x : UInt8) : isspaceI (x.toNat : Int) = b2i (cIsspace x) := by
  simp [isspaceI]

abbrev W (d : Bytes) (p : Nat) : St_htp_is_line_whitespace := { len := d.length, i := p }

theorem ws_loop (F : Nat) (d : Bytes) (h1 : d.length < 9223372036854775808) (n p : Nat) (hn : d.length - p < n) :
    retVal (seqS (whileF (htp_is_line_whitespace_cond1 F d) (htp_is_line_whitespace_body1 F d) (htp_is_line_whitespace_incr1 F d) n)
            (htp_is_line_whitespace_rest1 F d) (W d p))
      = some (b2i ((d.drop p).all cIsspace)) := by
  refine loop_eq retVal (W d) (fun _ => True) (d.length - ·) (fun p => some (b2i ((d.drop p).all cIsspace))) ?_ n p trivial hn
  intro p _ again ih
  obtain ⟨ha, hl⟩ | ⟨x, t, ha, hl, r1, ht⟩ := drop_cases d p
  · simp [turn, htp_is_line_whitespace_cond1, htp_is_line_whitespace_rest1, Nat.not_lt.2 hl, ha, b2i_true]
  · simp only [turn, htp_is_line_whitespace_cond1, htp_is_line_whitespace_body1, htp_is_line_whitespace_incr1, W, r1,
      isspaceI_byte, u64_succ p (by omega), go_iteS, go_retS, go_skipS, go_assignS, Option.bind_some, Int.ofNat_lt, hl, decide_true, if_true,
      retVal_ite, retVal_retS, ih (p + 1) trivial (by omega), ht, ha, List.all_cons]
    cases cIsspace x <;> rfl

theorem htp_is_line_whitespace_eq (d : Bytes) (h1 : d.length < 9223372036854775808) (fuel : Nat) (hf : d.length < fuel) :
    (htp_is_line_whitespace fuel d d.length).map (·.1) = some (b2i (Parse.isLineWhitespace d)) := by
  unfold htp_is_line_whitespace
  rw [run_val]
  exact ws_loop fuel d h1 fuel 0 (by omega)

theorem take_succ_reverse (d : Bytes) (n : Nat) (h : n < d.length) : (d.take (n + 1)).reverse = d[n] :: (d.take n).reverse := by
  rw [List.take_succ_eq_append_getElem h]; simp

/-- `n` bytes left of the line, `r` the result so far -/
abbrev CS (n r : Nat) : St_htp_chomp := { len := n, r := r }

/-- the model has a fuel `k` of its own, so the claim is about every `k > n` -/
theorem chomp_loop (F : Nat) (d : Bytes) (h1 : d.length < 9223372036854775808) (m n r : Nat) (hn : n ≤ d.length) (hm : n < m) :
    ∀ k, n < k → ∃ L R : Nat, Parse.chompLoop k (d.take n).reverse r = ((d.take L).reverse, R) ∧ L ≤ n ∧
      seqS (whileF (htp_chomp_cond1 F d) (htp_chomp_body1 F d) (htp_chomp_incr1 F d) m) (htp_chomp_rest1 F d) (CS n r)
        = some (.ret (CS L R) (R : Int)) := by
  refine loop_post (fun p : Nat × Nat => CS p.1 p.2) (fun p => p.1 ≤ d.length) (·.1)
    (fun p out => ∀ k, p.1 < k → ∃ L R : Nat, Parse.chompLoop k (d.take p.1).reverse p.2 = ((d.take L).reverse, R) ∧ L ≤ p.1 ∧
      out = some (.ret (CS L R) (R : Int))) ?_ m (n, r) hn hm
  intro ⟨n, r⟩ hn again ih k hk
  dsimp only at hn ih hk ⊢
  obtain ⟨k, rfl⟩ := fuel_succ hk
  cases n with
  | zero =>
    exact ⟨0, r, by simp [Parse.chompLoop], Nat.le_refl _, by simp [turn, htp_chomp_cond1, htp_chomp_rest1, retS, CS]⟩
  | succ n =>
    have hlt : n < d.length := by omega
    have r1 := rd_nat d n hlt
    rw [take_succ_reverse d n hlt]
    obtain ⟨c, hc⟩ : ∃ c, d[n] = c := ⟨_, rfl⟩
    rw [hc] at r1 ⊢
    have e10 : ((c.toNat : Int) = 10) ↔ c = 10 := toNat_int_inj c 10
    have e13 : ((c.toNat : Int) = 13) ↔ c = 13 := toNat_int_inj c 13
    by_cases hLF : c = 10
    · cases n with
      | zero =>
        exact ⟨0, 1, by simp [Parse.chompLoop, hLF, LF], by omega,
          by simp at r1; simp [turn, htp_chomp_cond1, htp_chomp_body1, iteS_bind, retS, CS, u64_zero, r1, e10, hLF]⟩
      | succ n =>
        have hlt2 : n < d.length := by omega
        have r2 := rd_nat d n hlt2
        rw [take_succ_reverse d n hlt2]
        obtain ⟨c2, hc2⟩ : ∃ c2, d[n] = c2 := ⟨_, rfl⟩
        rw [hc2] at r2 ⊢
        have f13 : ((c2.toNat : Int) = 13) ↔ c2 = 13 := toNat_int_inj c2 13
        have hu1 : u64 ((n : Int) + 1) = n + 1 := u64_id (by omega) (by omega)
        have hu0 := u64_nat n (by omega)
        have hpos : (0 : Int) < n + 1 + 1 := by omega
        have hne : ¬ ((n : Int) + 1 = 0) := by omega
        simp only [Int.natCast_add, Int.cast_ofNat_Int] at r1
        by_cases hCR : c2 = 13
        · obtain ⟨L, R, hmod, hL, hout⟩ := ih (n, 2) (Nat.le_of_lt hlt2) (Nat.lt_succ_of_lt (Nat.lt_succ_self n)) k (by omega)
          exact ⟨L, R, by simp [Parse.chompLoop, hLF, hCR, LF, CR, hmod], by omega,
            by simpa [turn, htp_chomp_cond1, htp_chomp_body1, htp_chomp_incr1, iteS_bind, retS, CS, hu1, hu0, hpos, hne, r1, r2, e10, f13, hLF, hCR]
              using hout⟩
        · obtain ⟨L, R, hmod, hL, hout⟩ := ih (n + 1, 1) (Nat.le_of_lt hlt) (Nat.lt_succ_self (n + 1)) k (Nat.lt_of_succ_lt_succ hk)
          rw [take_succ_reverse d n hlt2, hc2] at hmod
          exact ⟨L, R, by simp [Parse.chompLoop, hLF, hCR, LF, CR, hmod], by omega,
            by simpa [turn, htp_chomp_cond1, htp_chomp_body1, htp_chomp_incr1, iteS_bind, retS, CS, hu1, hu0, hpos, hne, r1, r2, e10, f13, hLF, hCR]
              using hout⟩
    · have hu0 := u64_nat n (by omega)
      have hpos : (0 : Int) < n + 1 := by omega
      by_cases hCR : c = 13
      · obtain ⟨L, R, hmod, hL, hout⟩ := ih (n, 1) (Nat.le_of_lt hlt) (Nat.lt_succ_self n) k (Nat.lt_of_succ_lt_succ hk)
        refine ⟨L, R, ?_, by omega,
          by simpa [turn, htp_chomp_cond1, htp_chomp_body1, htp_chomp_incr1, iteS_bind, retS, CS, hu0, hpos, r1, e10, e13, hLF, hCR]
            using hout⟩
        subst hCR
        simpa [Parse.chompLoop, LF, CR] using hmod
      · exact ⟨n + 1, r, by simp [Parse.chompLoop, hLF, hCR, LF, CR, take_succ_reverse d n hlt, hc], Nat.le_refl _,
          by simp [turn, htp_chomp_cond1, htp_chomp_body1, iteS_bind, retS, CS, hu0, hpos, r1, e10, e13, hLF, hCR]⟩

theorem htp_chomp_run (d : Bytes) (h1 : d.length < 9223372036854775808) (fuel : Nat) (hf : d.length < fuel) :
    ∃ L R : Nat, Parse.chomp d = (d.take L, R) ∧ L ≤ d.length ∧ htp_chomp fuel d d.length = some ((R : Int), CS L R) := by
  obtain ⟨L, R, hmod, hL, hcode⟩ := chomp_loop fuel d h1 fuel d.length 0 (Nat.le_refl _) hf (d.length + 1) (by omega)
  refine ⟨L, R, ?_, hL, ?_⟩
  · rw [List.take_length] at hmod
    simp [Parse.chomp, hmod]
  · exact congrArg outcome hcode

/-- the value returned and the length stored through `len` -/
theorem htp_chomp_eq (d : Bytes) (h1 : d.length < 9223372036854775808) (fuel : Nat) (hf : d.length < fuel) :
    (htp_chomp fuel d d.length).map (fun r => (r.1, r.2.len))
      = some (((Parse.chomp d).2 : Int), ((Parse.chomp d).1.length : Int)) := by
  obtain ⟨L, R, hmod, hL, hcode⟩ := htp_chomp_run d h1 fuel hf
  rw [hcode, hmod]
  simp [CS, List.length_take, Nat.min_eq_left hL]

theorem chompLoop_suffix : ∀ (k : Nat) (rev : Bytes) (r : Nat), (Parse.chompLoop k rev r).1 <:+ rev := by
  intro k
  induction k with
  | zero => intro rev r; simp [Parse.chompLoop]
  | succ k ih =>
    intro rev r
    cases rev with
    | nil => simp [Parse.chompLoop]
    | cons c rest =>
      by_cases hLF : c = LF
      · cases rest with
        | nil => simp [Parse.chompLoop, hLF]
        | cons c2 rest2 =>
          by_cases hCR : c2 = CR
          · have := ih rest2 2
            simp only [Parse.chompLoop, hLF, hCR, beq_self_eq_true, if_true]
            exact this.trans ((List.suffix_cons _ _).trans (List.suffix_cons _ _))
          · have := ih (c2 :: rest2) 1
            simp only [Parse.chompLoop, hLF, hCR, beq_self_eq_true, if_true, beq_iff_eq, if_false]
            exact this.trans (List.suffix_cons _ _)
      · by_cases hCR : c = CR
        · have := ih rest 1
          have hne : ¬ (CR = LF) := by decide
          simp only [Parse.chompLoop, hCR, hne, beq_self_eq_true, if_true, beq_iff_eq, if_false]
          exact this.trans (List.suffix_cons _ _)
        · simp [Parse.chompLoop, hLF, hCR]

/-- the model's result is a prefix of the input, so (value returned, new length) determines it -/
theorem chomp_prefix (d : Bytes) : (Parse.chomp d).1 = d.take (Parse.chomp d).1.length := by
  have h := chompLoop_suffix (d.length + 1) d.reverse 0
  have h2 : (Parse.chomp d).1 <+: d := by
    have : (Parse.chomp d).1 = (Parse.chompLoop (d.length + 1) d.reverse 0).1.reverse := rfl
    rw [this]
    have h3 := List.reverse_prefix.mpr h
    simpa using h3
  exact List.prefix_iff_eq_take.mp h2

end Htp.CFuns

#print axioms Htp.CFuns.htp_is_lws_eq
#print axioms Htp.CFuns.htp_is_text_eq
#print axioms Htp.CFuns.htp_is_folding_char_eq
#print axioms Htp.CFuns.htp_is_folding_char_neg1
#print axioms Htp.CFuns.htp_is_line_empty_eq
#print axioms Htp.CFuns.htp_is_line_whitespace_eq
#print axioms Htp.CFuns.htp_chomp_run
#print axioms Htp.CFuns.htp_chomp_eq
#print axioms Htp.CFuns.chomp_prefix
