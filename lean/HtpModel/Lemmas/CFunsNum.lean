/- The number parsers as translated in HtpModel/Gen/CFuns.lean = the hand-written models (all inputs):
   bstr_util_mem_to_pint = Bstr.memToPint (value and *lastlen; the int64 stores never wrap because of the overflow guard),
   htp_parse_positive_integer_whitespace = Num.parsePositiveIntegerWhitespace, htp_parse_port = Num.parsePort.
   Each is proved for a pointer with `x.length` bytes to parse and anything (`junk`) behind them; the primed theorem is the case
   `junk = []`. -/
import HtpModel.Lemmas.CFunsLine
import HtpModel.Lemmas.ListFacts
import HtpModel.Prim.Num
namespace Htp.CFuns
open Htp Htp.CSem Htp.Gen.C Htp.Gen

/-- `rval` and `tflag` of bstr_util_mem_to_pint for the digits read so far (`none`: no digit yet) -/
abbrev rvalOf : Option Nat → Int
  | some r => (r : Int)
  | none => 0
abbrev tflagOf : Option Nat → Int
  | some _ => 1
  | none => 0

/-- the C digit value of a byte (`-1`: not a digit in any base) -/
def dval (x : UInt8) : Int :=
  match Bstr.digitVal x with
  | some k => (k : Int)
  | none => -1

/-- index `p`, the value `acc` of the digits read so far, the current digit `dd`, `lastlen = l` -/
abbrev SP (d : Bytes) (base : Nat) (l : Int) (p : Nat) (acc : Option Nat) (dd : Int) : St_bstr_util_mem_to_pint :=
  { len := d.length, base := base, lastlen := l, rval := rvalOf acc, tflag := tflagOf acc, i := p, d := dd }

theorem digitVal_le {x : UInt8} {k : Nat} (h : Bstr.digitVal x = some k) : k ≤ 200 := by
  have := UInt8.toNat_lt x
  unfold Bstr.digitVal at h
  split at h
  · cases h; omega
  · split at h
    · cases h; omega
    · split at h
      · cases h; omega
      · cases h

theorem rd_append_of_drop {d junk : Bytes} {p : Nat} {x : UInt8} {t : Bytes} (h : d.drop p = x :: t) :
    rd (d ++ junk) (p : Int) = some (x.toNat : Int) := by
  rw [rd_append _ _ _ (lt_of_drop_cons h)]; exact rd_of_drop h

/-- the digit classification as the C computes it on the `int` value of the byte, whatever is done with the result -/
theorem dval_ite {α : Type} (x : UInt8) (f : Int → α) :
    (if 48 ≤ (x.toNat : Int) ∧ (x.toNat : Int) ≤ 57 then f (i32 (x.toNat - 48))
     else if 97 ≤ (x.toNat : Int) ∧ (x.toNat : Int) ≤ 122 then f (i32 (x.toNat - 87))
     else if 65 ≤ (x.toNat : Int) ∧ (x.toNat : Int) ≤ 90 then f (i32 (x.toNat - 55)) else f (-1)) = f (dval x) := by
  have hx := x.toNat_lt
  have e : ∀ n : Nat, n ≤ x.toNat → i32 ((x.toNat : Int) - (n : Int)) = ((x.toNat - n : Nat) : Int) := by
    intro n hn
    rw [i32_id] <;> omega
  unfold dval Bstr.digitVal
  simp only [← Int.ofNat_le, Int.cast_ofNat_Int]
  by_cases h1 : 48 ≤ (x.toNat : Int) ∧ (x.toNat : Int) ≤ 57
  · rw [if_pos h1, if_pos h1]
    exact congrArg f (e 48 (by omega))
  rw [if_neg h1, if_neg h1]
  by_cases h2 : 97 ≤ (x.toNat : Int) ∧ (x.toNat : Int) ≤ 122
  · rw [if_pos h2, if_pos h2]
    exact congrArg f (e 87 (by omega))
  rw [if_neg h2, if_neg h2]
  by_cases h3 : 65 ≤ (x.toNat : Int) ∧ (x.toNat : Int) ≤ 90
  · rw [if_pos h3, if_pos h3]
    exact congrArg f (e 55 (by omega))
  · rw [if_neg h3, if_neg h3]

theorem pint_body (F : Nat) (d junk : Bytes) (base : Nat) (l : Int) (p : Nat) (acc : Option Nat) (dd : Int) (x : UInt8) (t : Bytes)
    (hk : d.drop p = x :: t) :
    bstr_util_mem_to_pint_body1 F (d ++ junk) (SP d base l p acc dd) =
      if dval x = -1 ∨ (base : Int) ≤ dval x then
        some (.ret (SP d base p p acc (dval x)) (match acc with | some r => (r : Int) | none => -1))
      else match acc with
        | none => some (.next { SP d base p p none (dval x) with rval := dval x, tflag := 1 })
        | some r =>
          if Int.tdiv (9223372036854775807 - dval x) base < r then some (.ret (SP d base p p acc (dval x)) (-2))
          else some (.next { SP d base p p acc (dval x) with rval := i64 (i64 (r * base) + dval x) }) := by
  unfold bstr_util_mem_to_pint_body1
  simp only [seqS_assignS, rd_append_of_drop hk, Option.bind_some]
  -- read the byte, `*lastlen = i`, classify the digit
  refine (seqS_next (s1 := SP d base p p acc (dval x)) ?_).trans ?_
  · simp [iteS_bind, assignS]
    exact dval_ite x fun v => some (Ctl.next (SP d base p p acc v))
  · cases acc <;> simp [iteS_bind, retS, assignS, rvalOf, tflagOf]

/-- the overflow guard in exact arithmetic: when it does not fire the new value fits in an int64 -/
theorem guard_fits {r k base : Nat} (hk : k ≤ INT64_MAX') (h : ¬ ((INT64_MAX' - k) / base < r)) : r * base + k ≤ INT64_MAX' := by
  have h1 : r ≤ (INT64_MAX' - k) / base := by omega
  have h2 := Nat.mul_le_mul_right base h1
  have h3 := Nat.div_mul_le_self (INT64_MAX' - k) base
  omega

/-- the guard as the C evaluates it (`/` on int64 truncates) is the guard of the model -/
theorem guard_tdiv {k base r : Nat} (hk : k ≤ 200) :
    (Int.tdiv (9223372036854775807 - (k : Int)) (base : Int) < (r : Int)) ↔ ((INT64_MAX' - k) / base < r) := by
  have : (9223372036854775807 - (k : Int)) = ((INT64_MAX' - k : Nat) : Int) := by unfold INT64_MAX'; omega
  rw [this, ← Int.ofNat_tdiv, Int.ofNat_lt]

theorem i64_stores {r k base : Nat} (hfit : r * base + k ≤ INT64_MAX') :
    i64 (i64 ((r : Int) * (base : Int)) + (k : Int)) = ((r * base + k : Nat) : Int) := by
  unfold INT64_MAX' at hfit
  have h : i64 ((r * base : Nat) : Int) = ((r * base : Nat) : Int) := i64_id (by omega) (by omega)
  rw [← Int.natCast_mul, h, i64_id (by omega) (by omega), Int.natCast_add]

/-- the value of the digits read so far fits an int64 (kept by the overflow guard) -/
def accOk (acc : Option Nat) : Prop := ∀ r, acc = some r → r ≤ INT64_MAX'

theorem pint_loop (F : Nat) (d junk : Bytes) (base : Nat) (hd : d.length < 9223372036854775808) :
    ∀ (a : Bytes) (p n : Nat) (acc : Option Nat) (l dd : Int), d.drop p = a → p ≤ d.length → a.length < n → accOk acc →
      retWith St_bstr_util_mem_to_pint.lastlen (seqS (whileF (bstr_util_mem_to_pint_cond1 F (d ++ junk)) (bstr_util_mem_to_pint_body1 F (d ++ junk)) (bstr_util_mem_to_pint_incr1 F (d ++ junk)) n)
              (bstr_util_mem_to_pint_rest1 F (d ++ junk)) (SP d base l p acc dd))
        = some ((Bstr.pintLoop base a p acc).1, ((Bstr.pintLoop base a p acc).2 : Int)) := by
  have hc : ∀ p acc l dd, bstr_util_mem_to_pint_cond1 F (d ++ junk) (SP d base l p acc dd) = some (decide (p < d.length)) := by
    intro p acc l dd
    simp [bstr_util_mem_to_pint_cond1]
  intro a
  induction a with
  | nil =>
    intro p n acc l dd ha hp hn hacc
    obtain ⟨m, rfl⟩ := fuel_succ hn
    rw [seqS_next (whileF_exit m (by rw [hc, decide_eq_false (Nat.not_lt.mpr (le_of_drop_nil ha))]))]
    cases acc <;> simp [bstr_util_mem_to_pint_rest1, retS, retWith, u64_succ p (by omega), Bstr.pintLoop]
  | cons x a' ih =>
    intro p n acc l dd ha hp hn hacc
    obtain ⟨m, rfl⟩ := fuel_succ hn
    have hl := lt_of_drop_cons ha
    have hc' := (hc p acc l dd).trans (congrArg some (decide_eq_true hl))
    have hi : ∀ acc' dd', bstr_util_mem_to_pint_incr1 F (d ++ junk) (SP d base p p acc' dd') = some (.next (SP d base p (p + 1) acc' dd')) := by
      intro acc' dd'
      simp [bstr_util_mem_to_pint_incr1, assignS, u64_succ p (by omega)]
    have hb := pint_body F d junk base l p acc dd x a' ha
    have ih' := fun acc' dd' => ih (p + 1) m acc' p dd' (drop_succ_of_drop ha) hl (by simpa using hn)
    unfold Bstr.pintLoop
    cases hdv : Bstr.digitVal x with
    | none =>
      rw [show dval x = -1 by simp [dval, hdv], if_pos (Or.inl rfl)] at hb
      rw [seqS_ret (whileF_ret m hc' hb)]
      cases acc <;> rfl
    | some k =>
      have hk := digitVal_le hdv
      rw [show dval x = (k : Int) by simp [dval, hdv]] at hb
      by_cases hkb : k ≥ base
      · rw [if_pos (Or.inr (by omega))] at hb
        rw [seqS_ret (whileF_ret m hc' hb)]
        cases acc <;> simp [retWith, hkb]
      · rw [if_neg (by omega)] at hb
        cases acc with
        | none =>
          rw [seqS_congr (whileF_next m hc' hb (hi (some k) k)), ih' _ _ (by intro r e; cases e; unfold INT64_MAX'; omega)]
          simp [hkb]
        | some r =>
          dsimp only at hb
          by_cases hov : (INT64_MAX' - k) / base < r
          · rw [if_pos ((guard_tdiv hk).mpr hov)] at hb
            rw [seqS_ret (whileF_ret m hc' hb)]
            simp [retWith, hkb, hov]
          · have hfit := guard_fits (r := r) (k := k) (base := base) (by unfold INT64_MAX'; omega) hov
            rw [if_neg (mt (guard_tdiv hk).mp hov), i64_stores hfit] at hb
            rw [seqS_congr (whileF_next m hc' hb (hi (some (r * base + k)) k)), ih' _ _ (by intro r' e; cases e; exact hfit)]
            simp [hkb, hov]

theorem bstr_util_mem_to_pint_eq (x junk : Bytes) (base : Nat) (l0 : Int) (hx : x.length < 9223372036854775808)
    (fuel : Nat) (hf : x.length < fuel) :
    (bstr_util_mem_to_pint fuel (x ++ junk) x.length base l0).map (fun r => (r.1, r.2.lastlen))
      = some ((Bstr.memToPint x base).1, ((Bstr.memToPint x base).2 : Int)) := by
  unfold bstr_util_mem_to_pint
  rw [run_retWith St_bstr_util_mem_to_pint.lastlen]
  exact pint_loop fuel x junk base hx x 0 fuel none 0 0 rfl (by omega) hf (by intro r e; cases e)

theorem bstr_util_mem_to_pint_eq' (d : Bytes) (base : Nat) (l0 : Int) (hd : d.length < 9223372036854775808)
    (fuel : Nat) (hf : d.length < fuel) :
    (bstr_util_mem_to_pint fuel d d.length base l0).map (fun r => (r.1, r.2.lastlen))
      = some ((Bstr.memToPint d base).1, ((Bstr.memToPint d base).2 : Int)) := by
  have := bstr_util_mem_to_pint_eq d [] base l0 hd fuel hf
  simpa using this

/-- the call on a byte with its whole outcome, as the conditions of the callers below bind it (`htp_is_lws_int` is about every `int`,
    `htp_is_lws_eq` about the value alone) -/
theorem htp_is_lws_val (F : Nat) (y : UInt8) :
    htp_is_lws F (y.toNat : Int) = some (if isLws y then 1 else 0, { c := y.toNat }) := by
  rw [htp_is_lws_int, lws_table]; rfl

theorem htp_is_lws_byte (F : Nat) (y : UInt8) : (htp_is_lws F (y.toNat : Int)).map (·.1) = some (if isLws y then 1 else 0) :=
  htp_is_lws_eq F y

abbrev SW (x : Bytes) (base : Nat) (lp : Int) (p : Nat) (r : Int) : St_htp_parse_positive_integer_whitespace :=
  { len := x.length, base := base, last_pos := lp, pos := p, r := r }

/-- loop 2: skip leading LWS -/
theorem piw_loop2 (F : Nat) (x junk : Bytes) (base : Nat) (lp r : Int) (hx : x.length < 9223372036854775808)
    (a : Bytes) (p n : Nat) (ha : x.drop p = a) (hn : a.length < n) :
    whileF (htp_parse_positive_integer_whitespace_cond2 F (x ++ junk)) (htp_parse_positive_integer_whitespace_body2 F (x ++ junk))
        (htp_parse_positive_integer_whitespace_incr2 F (x ++ junk)) n (SW x base lp p r)
      = some (.next (SW x base lp (p + (a.takeWhile isLws).length) r)) := by
  have hc0 : ∀ k, x.drop k = [] → htp_parse_positive_integer_whitespace_cond2 F (x ++ junk) (SW x base lp k r) = some false := by
    intro k hk
    simp [htp_parse_positive_integer_whitespace_cond2, andL, Nat.not_lt.mpr (le_of_drop_nil hk)]
  have hc : ∀ k y t, x.drop k = y :: t →
      htp_parse_positive_integer_whitespace_cond2 F (x ++ junk) (SW x base lp k r) = some (isLws y) := by
    intro k y t hk
    simp [htp_parse_positive_integer_whitespace_cond2, rd_append_of_drop hk, htp_is_lws_val, andL_some, lt_of_drop_cons hk]
  have hb : ∀ k, k < x.length →
      htp_parse_positive_integer_whitespace_body2 F (x ++ junk) (SW x base lp k r) = some (.next (SW x base lp (k + 1) r)) := by
    intro k hk
    simp [htp_parse_positive_integer_whitespace_body2, assignS, u64_succ k (by omega)]
  obtain ⟨s', hw, rfl⟩ := scan_loop (cond := htp_parse_positive_integer_whitespace_cond2 F (x ++ junk))
    (body := htp_parse_positive_integer_whitespace_body2 F (x ++ junk)) (incr := htp_parse_positive_integer_whitespace_incr2 F (x ++ junk))
    x isLws (fun k s => s = SW x base lp k r) (fun k _ s => s = SW x base lp k r)
    (fun k s m hs hk => by subst hs; exact ⟨_, whileF_exit m (hc0 k hk), rfl⟩)
    (fun k s m y t hs hk hy => by subst hs; exact ⟨_, whileF_exit m (by rw [hc k y t hk, hy]), rfl⟩)
    (fun k s m y t hs hk hy => by
      subst hs; exact ⟨_, whileF_next m (by rw [hc k y t hk, hy]) (hb k (lt_of_drop_cons hk)) rfl, rfl⟩)
    a p n _ ha hn rfl
  exact hw

/-- loop 1: only LWS may follow the number -/
theorem piw_loop1 (F : Nat) (x junk : Bytes) (base : Nat) (lp r : Int) (hx : x.length < 9223372036854775808) (n p : Nat)
    (hn : x.length - p < n) :
    retVal (seqS (whileF (htp_parse_positive_integer_whitespace_cond1 F (x ++ junk)) (htp_parse_positive_integer_whitespace_body1 F (x ++ junk))
        (htp_parse_positive_integer_whitespace_incr1 F (x ++ junk)) n) (htp_parse_positive_integer_whitespace_rest1 F (x ++ junk))
        (SW x base lp p r))
      = some (if (x.drop p).all isLws then r else -1002) := by
  refine loop_eq retVal (SW x base lp · r) (fun _ => True) (x.length - ·) (fun p => some (if (x.drop p).all isLws then r else -1002)) ?_
    n p trivial hn
  intro p _ again ih
  cases ha : x.drop p with
  | nil =>
    simp [turn, htp_parse_positive_integer_whitespace_cond1, htp_parse_positive_integer_whitespace_rest1, Nat.not_lt.2 (le_of_drop_nil ha)]
  | cons y t =>
    have hl := lt_of_drop_cons ha
    simp only [turn, htp_parse_positive_integer_whitespace_cond1, htp_parse_positive_integer_whitespace_body1,
      htp_parse_positive_integer_whitespace_incr1, SW, Int.ofNat_lt, hl, decide_true, Option.bind_some, if_true, go_seqS, go_iteS, go_retS,
      go_skipS, go_assignS, rd_append_of_drop ha, htp_is_lws_val, u64_succ p (by omega), retVal_ite, retVal_retS,
      ih (p + 1) trivial (Nat.sub_lt_sub_left hl (Nat.lt_succ_self p)), drop_succ_of_drop ha, List.all_cons]
    by_cases hy : isLws y = true <;> simp [hy]

theorem pintLoop_snd_le (base : Nat) : ∀ (a : Bytes) (i : Nat) (acc : Option Nat), (Bstr.pintLoop base a i acc).2 ≤ i + a.length + 1 := by
  intro a
  induction a with
  | nil => intro i acc; simp [Bstr.pintLoop]
  | cons c cs ih =>
    intro i acc
    have h1 := ih (i + 1)
    unfold Bstr.pintLoop
    simp only [List.length_cons]
    split
    · split
      · split <;> (dsimp only; omega)
      · split
        · split
          · dsimp only; omega
          · exact Nat.le_trans (h1 _) (by omega)
        · exact Nat.le_trans (h1 _) (by omega)
    · split <;> (dsimp only; omega)

theorem htp_parse_positive_integer_whitespace_eq (x junk : Bytes) (base : Nat) (hx : x.length < 9223372036854775808)
    (fuel : Nat) (hf : x.length < fuel) :
    (htp_parse_positive_integer_whitespace fuel (x ++ junk) x.length base).map (·.1)
      = some (Num.parsePositiveIntegerWhitespace x base) := by
  unfold htp_parse_positive_integer_whitespace
  rw [run_val]
  by_cases h0 : x.length = 0
  · simp [htp_parse_positive_integer_whitespace_stmt, retS, retVal, h0, Num.parsePositiveIntegerWhitespace]
  have hne : ¬ x = [] := fun e => h0 (congrArg List.length e)
  have hlen : (x.takeWhile isLws).length + (x.dropWhile isLws).length = x.length := by
    rw [← List.length_append, List.takeWhile_append_dropWhile]
  have hdrop := drop_takeWhile isLws x
  have hw := piw_loop2 fuel x junk base 0 0 hx x 0 fuel rfl hf
  rw [Nat.zero_add] at hw
  generalize hrest : x.dropWhile isLws = rest at hdrop hlen
  generalize (x.takeWhile isLws).length = q at hdrop hlen hw
  have hd2 : List.drop q (x ++ junk) = rest ++ junk := by
    rw [List.drop_append_of_le_length (by omega), hdrop]
  have hu : u64 ((x.length : Int) - (q : Int)) = (rest.length : Int) := by rw [u64_id] <;> omega
  have hcall := bstr_util_mem_to_pint_eq rest junk base 0 (by omega) fuel (by omega)
  have hsnd : (Bstr.memToPint rest base).2 ≤ rest.length + 1 := by
    have := pintLoop_snd_le base rest 0 none
    unfold Bstr.memToPint
    omega
  generalize hm : Bstr.memToPint rest base = mp at hcall hsnd
  obtain ⟨rv, lp⟩ := mp
  obtain ⟨v, hv, hv2⟩ := Option.map_eq_some_iff.mp hcall
  have hv1 : v.1 = rv := congrArg Prod.fst hv2
  have hvl : v.2.lastlen = (lp : Int) := congrArg Prod.snd hv2
  have hu2 : u64 ((q : Int) + (lp : Int)) = ((q + lp : Nat) : Int) := by rw [u64_id] <;> omega
  have hS : htp_parse_positive_integer_whitespace_stmt fuel (x ++ junk) { len := x.length, base := base }
      = if q = x.length then some (.ret (SW x base 0 q 0) (-1001))
        else if rv < 0 then some (.ret (SW x base lp q rv) rv)
        else htp_parse_positive_integer_whitespace_loop1 fuel (x ++ junk) (SW x base lp (q + lp) rv) := by
    simp [htp_parse_positive_integer_whitespace_stmt, htp_parse_positive_integer_whitespace_loop2, hne]
    refine (seqS_next hw).trans ?_
    simp [htp_parse_positive_integer_whitespace_rest2, retS, hd2, hu, hv, hv1, hvl, hu2, Int.ofNat_inj]
    rfl
  have hmodel : Num.parsePositiveIntegerWhitespace x base
      = if q = x.length then -1001 else if rv < 0 then rv else if (x.drop (q + lp)).all isLws then rv else -1002 := by
    have hq : x.length - rest.length = q := by omega
    simp [Num.parsePositiveIntegerWhitespace, h0, hrest, hq, hm]
  rw [hS, hmodel, apply_ite retVal, apply_ite some, apply_ite retVal, apply_ite some]
  exact ite_congr rfl (fun _ => rfl) fun _ => ite_congr rfl (fun _ => rfl) fun _ =>
    piw_loop1 fuel x junk base lp rv hx fuel (q + lp) (by omega)

theorem htp_parse_port_eq (x junk : Bytes) (p0 i0 : Int) (hx : x.length < 9223372036854775808) (fuel : Nat) (hf : x.length < fuel) :
    (htp_parse_port fuel (x ++ junk) x.length p0 i0).map (fun r => (r.2.port, r.2.invalid))
      = some ((Num.parsePort x).1, if (Num.parsePort x).2 then 1 else i0) := by
  obtain ⟨v, hv, hv1⟩ := Option.map_eq_some_iff.mp (htp_parse_positive_integer_whitespace_eq x junk 10 hx fuel hf)
  have hv' : htp_parse_positive_integer_whitespace fuel (x ++ junk) (x.length : Int) 10 = some v := hv
  unfold Num.parsePort
  generalize Num.parsePositiveIntegerWhitespace x 10 = P at hv1
  simp [htp_parse_port, run_outcome, htp_parse_port_stmt, retS, hv', hv1, map_ite]
  by_cases h0 : x = []
  · rw [if_pos h0, if_pos h0]; rfl
  rw [if_neg h0, if_neg h0]
  by_cases hneg : P < 0
  · rw [if_pos hneg, if_pos hneg]; rfl
  rw [if_neg hneg, if_neg hneg]
  by_cases hr : 0 < P ∧ P < 65536
  · rw [if_pos hr, if_pos hr, i32_id (v := P) (by omega) (by omega)]; rfl
  · rw [if_neg hr, if_neg hr]; rfl

end Htp.CFuns
