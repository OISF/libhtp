/- C16 over whole call histories: once a direction is in tunnel mode it stays there, and no further parsing callback runs for it - for every
   stream, every chunking and every INTERLEAVING of request data calls, response data calls, htp_connp_open and htp_connp_tx_freed.
   htp_connp_close / htp_connp_req_close are excluded (`NoClose`): they overwrite TUNNEL with CLOSED (finding S8-tunnel,
   `tunnel_not_kept_by_close`).

   The per-call theorems (`Props/C16.lean`) need the call guard `tx.isSome ∨ state = idle` and say nothing about what the calls of the OTHER
   direction do to a direction's TUNNEL status in between. Two facts of the model (and of the C) shape the invariant `TunnelIn` / `TunnelOut`:
   * `status = TUNNEL` alone is NOT kept by the calls of the other direction (`tunnel_status_alone_not_kept_by_res`, `.._by_req`: made-up
     states). What excludes it: the other direction is itself in a status on which a data call returns before it parses - TUNNEL, ERROR or
     STOP (`Quiet`). That is no restriction for a parser run from its creation: the only writers of TUNNEL - the CONNECT probe and the 101
     switch - write both directions (`TunnelPair`, kept by every call: Lemmas/TunnelPair.lean and `history_tunnelPair`), so
     `history_tunnel_fresh_req` / `_res` have the status and the call guard as their only hypotheses.
   * the call guard is not implied by the status, not even in reachable states (`tunnel_status_without_guard_not_absorbing`). -/
import HtpModel.Lemmas.Calls
import HtpModel.Lemmas.TunnelPair
namespace Htp.Conn
open Htp Htp.Gen

def NoClose (calls : List Call) : Prop := ∀ call ∈ calls, call ≠ .close ∧ call ≠ .reqClose

theorem NoClose.prefix {pre calls : List Call} (h : NoClose calls) (hp : pre <+: calls) : NoClose pre :=
  fun cl hm => h cl (hp.subset hm)
theorem NoClose.append {l1 l2 : List Call} (h1 : NoClose l1) (h2 : NoClose l2) : NoClose (l1 ++ l2) := by
  intro cl hm
  rcases List.mem_append.mp hm with h | h
  · exact h1 cl h
  · exact h2 cl h

instance (calls : List Call) : Decidable (NoClose calls) := by unfold NoClose; infer_instance

/-- the request direction is in tunnel mode: its status is TUNNEL, the guard of a request data call holds (a current transaction, or
    the idle state), and the response direction does not parse -/
def TunnelIn (c : Conn) : Prop :=
  c.inn.status = STREAM_TUNNEL ∧ (c.inn.tx.isSome = true ∨ c.inState = .idle) ∧ Quiet c.out.status

def TunnelOut (c : Conn) : Prop :=
  c.out.status = STREAM_TUNNEL ∧ (c.out.tx.isSome = true ∨ c.outState = .idle) ∧ Quiet c.inn.status

instance (c : Conn) : Decidable (TunnelIn c) := by unfold TunnelIn; infer_instance
instance (c : Conn) : Decidable (TunnelOut c) := by unfold TunnelOut; infer_instance

theorem reqData_quiet (cfg : Cfg) (data : Option Bytes) (len : Nat) (c : Conn) (h : Quiet c.inn.status) :
    (reqData cfg data len c).1.out = c.out ∧ (reqData cfg data len c).1.inState = c.inState ∧
    (reqData cfg data len c).1.outState = c.outState ∧ (reqData cfg data len c).1.txs = c.txs ∧
    (reqData cfg data len c).1.events = c.events ∧ (reqData cfg data len c).1.inn.tx = c.inn.tx ∧
    Quiet (reqData cfg data len c).1.inn.status := by
  rw [reqData_eq]
  exact reqDataCore_cases (P := fun r => r.1.out = c.out ∧ r.1.inState = c.inState ∧ r.1.outState = c.outState ∧ r.1.txs = c.txs ∧
      r.1.events = c.events ∧ r.1.inn.tx = c.inn.tx ∧ Quiet r.1.inn.status) cfg data len c
    (fun _ => ⟨rfl, rfl, rfl, rfl, rfl, rfl, h⟩) (fun _ => ⟨rfl, rfl, rfl, rfl, rfl, rfl, h⟩)
    (fun _ _ => ⟨rfl, rfl, rfl, rfl, rfl, rfl, Or.inr (Or.inl rfl)⟩) (fun _ _ => ⟨rfl, rfl, rfl, rfl, rfl, rfl, h⟩)
    (fun ht _ => ⟨rfl, rfl, rfl, rfl, rfl, rfl, Or.inl ht⟩) (fun h1 h2 h3 _ => by rcases h with e | e | e <;> contradiction)

theorem resData_quiet (cfg : Cfg) (data : Option Bytes) (len : Nat) (c : Conn) (h : Quiet c.out.status) :
    (resData cfg data len c).1.inn = c.inn ∧ (resData cfg data len c).1.inState = c.inState ∧
    (resData cfg data len c).1.outState = c.outState ∧ (resData cfg data len c).1.txs = c.txs ∧
    (resData cfg data len c).1.events = c.events ∧ (resData cfg data len c).1.out.tx = c.out.tx ∧
    Quiet (resData cfg data len c).1.out.status := by
  rw [resData_eq]
  exact resDataCore_cases (P := fun r => r.1.inn = c.inn ∧ r.1.inState = c.inState ∧ r.1.outState = c.outState ∧ r.1.txs = c.txs ∧
      r.1.events = c.events ∧ r.1.out.tx = c.out.tx ∧ Quiet r.1.out.status) cfg data len c
    (fun _ => ⟨rfl, rfl, rfl, rfl, rfl, rfl, h⟩) (fun _ => ⟨rfl, rfl, rfl, rfl, rfl, rfl, h⟩)
    (fun _ _ => ⟨rfl, rfl, rfl, rfl, rfl, rfl, Or.inr (Or.inl rfl)⟩) (fun _ _ => ⟨rfl, rfl, rfl, rfl, rfl, rfl, h⟩)
    (fun ht _ => ⟨rfl, rfl, rfl, rfl, rfl, rfl, Or.inl ht⟩) (fun h1 h2 h3 _ => by rcases h with e | e | e <;> contradiction)

/-- also for the empty chunk (answered STREAM_CLOSED without touching the state) -/
theorem reqData_tunnel_status (cfg : Cfg) (data : Option Bytes) (len : Nat) (c : Conn) (ht : c.inn.status = STREAM_TUNNEL)
    (hg : c.inn.tx.isSome = true ∨ c.inState = .idle) : (reqData cfg data len c).1.inn.status = STREAM_TUNNEL := by
  rw [reqData_eq]
  refine reqDataCore_cases (P := fun r => r.1.inn.status = STREAM_TUNNEL) cfg data len c (fun _ => ht) (fun _ => ht) (fun hn hi => ?_)
    (fun _ _ => ht) (fun _ _ => ht) (fun _ _ h3 _ => absurd ht h3)
  rcases hg with h | h
  · rw [hn] at h; cases h
  · exact absurd h hi

theorem resData_tunnel_status (cfg : Cfg) (data : Option Bytes) (len : Nat) (c : Conn) (ht : c.out.status = STREAM_TUNNEL)
    (hg : c.out.tx.isSome = true ∨ c.outState = .idle) : (resData cfg data len c).1.out.status = STREAM_TUNNEL := by
  rw [resData_eq]
  refine resDataCore_cases (P := fun r => r.1.out.status = STREAM_TUNNEL) cfg data len c (fun _ => ht) (fun _ => ht) (fun hn hi => ?_)
    (fun _ _ => ht) (fun _ _ => ht) (fun _ _ h3 _ => absurd ht h3)
  rcases hg with h | h
  · rw [hn] at h; cases h
  · exact absurd h hi

theorem quiet_ne_new {s : Nat} (h : Quiet s) : s ≠ STREAM_NEW := by
  rcases h with h | h | h <;> rw [h] <;> decide

theorem tunnelIn_req (cfg : Cfg) (d : Bytes) (c : Conn) (h : TunnelIn c) : TunnelIn (reqData cfg (some d) d.length c).1 := by
  obtain ⟨ht, hg, hq⟩ := h
  obtain ⟨ho, hs, _, _, _, htx, _⟩ := reqData_quiet cfg (some d) d.length c (Or.inl ht)
  exact ⟨reqData_tunnel_status cfg _ _ c ht hg, by rw [htx, hs]; exact hg, by rw [ho]; exact hq⟩

theorem tunnelIn_res (cfg : Cfg) (d : Bytes) (c : Conn) (h : TunnelIn c) : TunnelIn (resData cfg (some d) d.length c).1 := by
  obtain ⟨ht, hg, hq⟩ := h
  obtain ⟨hi, hs, _, _, _, _, hq'⟩ := resData_quiet cfg (some d) d.length c hq
  exact ⟨by rw [hi]; exact ht, by rw [hi, hs]; exact hg, hq'⟩

theorem tunnelIn_open (c : Conn) (h : TunnelIn c) : TunnelIn (connOpen c) := by
  rw [connOpen_of_ne c (Or.inl (quiet_ne_new (Or.inl h.1)))]; exact h

theorem tunnelIn_txFreed (c : Conn) (h : TunnelIn c) : TunnelIn (txFreed c).1 := by
  obtain ⟨hi, ho, hs, _, _⟩ := txFreed_dirs c
  unfold TunnelIn
  rw [hi, ho, hs]; exact h

theorem tunnelOut_res (cfg : Cfg) (d : Bytes) (c : Conn) (h : TunnelOut c) : TunnelOut (resData cfg (some d) d.length c).1 := by
  obtain ⟨ht, hg, hq⟩ := h
  obtain ⟨hi, _, hs, _, _, htx, _⟩ := resData_quiet cfg (some d) d.length c (Or.inl ht)
  exact ⟨resData_tunnel_status cfg _ _ c ht hg, by rw [htx, hs]; exact hg, by rw [hi]; exact hq⟩

theorem tunnelOut_req (cfg : Cfg) (d : Bytes) (c : Conn) (h : TunnelOut c) : TunnelOut (reqData cfg (some d) d.length c).1 := by
  obtain ⟨ht, hg, hq⟩ := h
  obtain ⟨ho, _, hs, _, _, _, hq'⟩ := reqData_quiet cfg (some d) d.length c hq
  exact ⟨by rw [ho]; exact ht, by rw [ho, hs]; exact hg, hq'⟩

theorem tunnelOut_open (c : Conn) (h : TunnelOut c) : TunnelOut (connOpen c) := by
  rw [connOpen_of_ne c (Or.inr (quiet_ne_new (Or.inl h.1)))]; exact h

theorem tunnelOut_txFreed (c : Conn) (h : TunnelOut c) : TunnelOut (txFreed c).1 := by
  obtain ⟨hi, ho, _, hs, _⟩ := txFreed_dirs c
  unfold TunnelOut
  rw [hi, ho, hs]; exact h

theorem runCall_noClose {cfg : Cfg} {P : Conn → Prop} (req : ∀ d c, P c → P (reqData cfg (some d) d.length c).1)
    (res : ∀ d c, P c → P (resData cfg (some d) d.length c).1) (opn : ∀ c, P c → P (connOpen c)) (freed : ∀ c, P c → P (txFreed c).1)
    (c : Conn) (call : Call) (hn : call ≠ .close ∧ call ≠ .reqClose) (h : P c) : P (runCall cfg c call) := by
  cases call with
  | req d => exact req d c h
  | res d => exact res d c h
  | close => exact absurd rfl hn.1
  | reqClose => exact absurd rfl hn.2
  | «open» => exact opn c h
  | txFreed => exact freed c h

theorem history_tunnel_absorbing_req (cfg : Cfg) (c0 : Conn) (calls : List Call) (hn : NoClose calls) (h : TunnelIn c0) :
    TunnelIn (runCalls cfg c0 calls) :=
  runCalls_inv (runCall_noClose (tunnelIn_req cfg) (tunnelIn_res cfg) tunnelIn_open tunnelIn_txFreed) c0 calls hn h

theorem history_tunnel_absorbing_res (cfg : Cfg) (c0 : Conn) (calls : List Call) (hn : NoClose calls) (h : TunnelOut c0) :
    TunnelOut (runCalls cfg c0 calls) :=
  runCalls_inv (runCall_noClose (tunnelOut_req cfg) (tunnelOut_res cfg) tunnelOut_open tunnelOut_txFreed) c0 calls hn h

theorem tunnel_req_call (cfg : Cfg) (c : Conn) (d : Bytes) (hlen : 0 < d.length)
    (ht : c.inn.status = STREAM_TUNNEL) (hg : c.inn.tx.isSome = true ∨ c.inState = .idle) :
    (reqData cfg (some d) d.length c).2 = STREAM_TUNNEL ∧ (reqData cfg (some d) d.length c).1.events = c.events ∧
    (reqData cfg (some d) d.length c).1.txs = c.txs ∧ (reqData cfg (some d) d.length c).1.inn.status = STREAM_TUNNEL ∧
    (reqData cfg (some d) d.length c).1.inDataCounter = c.inDataCounter + d.length := by
  rw [reqData_eq]
  refine reqDataCore_cases (P := fun r => r.2 = STREAM_TUNNEL ∧ r.1.events = c.events ∧ r.1.txs = c.txs ∧
      r.1.inn.status = STREAM_TUNNEL ∧ r.1.inDataCounter = c.inDataCounter + d.length) cfg (some d) d.length c
    (fun h => absurd (ht.symm.trans h) (by decide)) (fun h => absurd (ht.symm.trans h) (by decide)) (fun h1 h2 => ?_)
    (fun h _ => absurd h (by omega)) (fun _ _ => ⟨rfl, rfl, rfl, ht, rfl⟩) (fun _ _ h _ => absurd ht h)
  rcases hg with h | h
  · rw [h1] at h; cases h
  · exact absurd h h2

theorem tunnel_res_call (cfg : Cfg) (c : Conn) (d : Bytes) (hlen : 0 < d.length)
    (ht : c.out.status = STREAM_TUNNEL) (hg : c.out.tx.isSome = true ∨ c.outState = .idle) :
    (resData cfg (some d) d.length c).2 = STREAM_TUNNEL ∧ (resData cfg (some d) d.length c).1.events = c.events ∧
    (resData cfg (some d) d.length c).1.txs = c.txs ∧ (resData cfg (some d) d.length c).1.out.status = STREAM_TUNNEL ∧
    (resData cfg (some d) d.length c).1.outDataCounter = c.outDataCounter + d.length := by
  rw [resData_eq]
  refine resDataCore_cases (P := fun r => r.2 = STREAM_TUNNEL ∧ r.1.events = c.events ∧ r.1.txs = c.txs ∧
      r.1.out.status = STREAM_TUNNEL ∧ r.1.outDataCounter = c.outDataCounter + d.length) cfg (some d) d.length c
    (fun h => absurd (ht.symm.trans h) (by decide)) (fun h => absurd (ht.symm.trans h) (by decide)) (fun h1 h2 => ?_)
    (fun h _ => absurd h (by omega)) (fun _ _ => ⟨rfl, rfl, rfl, ht, rfl⟩) (fun _ _ h _ => absurd ht h)
  rcases hg with h | h
  · rw [h1] at h; cases h
  · exact absurd h h2

/-- **C16 over histories, request direction, in the property's words**: the request direction is in tunnel mode. Then after every history
    without closes - whatever the other direction is fed in between - every non-empty request data call returns STREAM_TUNNEL, runs no
    callback (the event log is unchanged), changes no transaction, keeps the status and counts the bytes. -/
theorem history_tunnel_req_silent (cfg : Cfg) (c0 : Conn) (calls : List Call) (hn : NoClose calls) (h : TunnelIn c0) :
    ∀ pre d, pre ++ [.req d] <+: calls → 0 < d.length →
      (reqData cfg (some d) d.length (runCalls cfg c0 pre)).2 = STREAM_TUNNEL ∧
      (reqData cfg (some d) d.length (runCalls cfg c0 pre)).1.events = (runCalls cfg c0 pre).events ∧
      (reqData cfg (some d) d.length (runCalls cfg c0 pre)).1.txs = (runCalls cfg c0 pre).txs ∧
      (reqData cfg (some d) d.length (runCalls cfg c0 pre)).1.inn.status = STREAM_TUNNEL ∧
      (reqData cfg (some d) d.length (runCalls cfg c0 pre)).1.inDataCounter = (runCalls cfg c0 pre).inDataCounter + d.length := by
  intro pre d hp hlen
  have hpre : pre <+: calls := List.IsPrefix.trans (List.prefix_append pre [Call.req d]) hp
  obtain ⟨ht, hg, _⟩ := history_tunnel_absorbing_req cfg c0 pre (hn.prefix hpre) h
  exact tunnel_req_call cfg _ d hlen ht hg

theorem history_tunnel_res_silent (cfg : Cfg) (c0 : Conn) (calls : List Call) (hn : NoClose calls) (h : TunnelOut c0) :
    ∀ pre d, pre ++ [.res d] <+: calls → 0 < d.length →
      (resData cfg (some d) d.length (runCalls cfg c0 pre)).2 = STREAM_TUNNEL ∧
      (resData cfg (some d) d.length (runCalls cfg c0 pre)).1.events = (runCalls cfg c0 pre).events ∧
      (resData cfg (some d) d.length (runCalls cfg c0 pre)).1.txs = (runCalls cfg c0 pre).txs ∧
      (resData cfg (some d) d.length (runCalls cfg c0 pre)).1.out.status = STREAM_TUNNEL ∧
      (resData cfg (some d) d.length (runCalls cfg c0 pre)).1.outDataCounter = (runCalls cfg c0 pre).outDataCounter + d.length := by
  intro pre d hp hlen
  have hpre : pre <+: calls := List.IsPrefix.trans (List.prefix_append pre [Call.res d]) hp
  obtain ⟨ht, hg, _⟩ := history_tunnel_absorbing_res cfg c0 pre (hn.prefix hpre) h
  exact tunnel_res_call cfg _ d hlen ht hg

theorem tunnelPair_open (c : Conn) (h : TunnelPair c) : TunnelPair (connOpen c) := by
  unfold connOpen
  refine ite_cases (fun _ => ?_) fun _ => ?_
  · exact h
  · have ho : STREAM_OPEN ≠ STREAM_TUNNEL := by decide
    exact ⟨fun e => absurd e ho, fun e => absurd e ho⟩

theorem tunnelPair_txFreed (c : Conn) (h : TunnelPair c) : TunnelPair (txFreed c).1 := by
  obtain ⟨hi, ho, _, _, _⟩ := txFreed_dirs c
  unfold TunnelPair
  rw [hi, ho]; exact h

theorem history_tunnelPair (cfg : Cfg) (c0 : Conn) (calls : List Call) (hn : NoClose calls) (h : TunnelPair c0) :
    TunnelPair (runCalls cfg c0 calls) :=
  runCalls_inv (runCall_noClose (fun _ => reqData_pair cfg _ _) (fun _ => resData_pair cfg _ _) tunnelPair_open tunnelPair_txFreed) c0 calls hn h

theorem tunnelPair_fresh : TunnelPair ({} : Conn) := by decide

/-- **C16 for a connection parser from its creation, request direction**: any history without closes on a fresh parser, cut anywhere into
    `pre ++ post`. If after `pre` the request direction has status TUNNEL and the guard of a request data call holds, then at every point of
    `post` a non-empty request data call returns STREAM_TUNNEL, runs no callback, changes no transaction and counts the bytes - whatever
    the response direction is fed in between. -/
theorem history_tunnel_fresh_req (cfg : Cfg) (pre post : List Call) (hn : NoClose (pre ++ post))
    (ht : (runCalls cfg {} pre).inn.status = STREAM_TUNNEL)
    (hg : (runCalls cfg {} pre).inn.tx.isSome = true ∨ (runCalls cfg {} pre).inState = .idle) :
    ∀ mid d, mid ++ [.req d] <+: post → 0 < d.length →
      (reqData cfg (some d) d.length (runCalls cfg {} (pre ++ mid))).2 = STREAM_TUNNEL ∧
      (reqData cfg (some d) d.length (runCalls cfg {} (pre ++ mid))).1.events = (runCalls cfg {} (pre ++ mid)).events ∧
      (reqData cfg (some d) d.length (runCalls cfg {} (pre ++ mid))).1.txs = (runCalls cfg {} (pre ++ mid)).txs ∧
      (reqData cfg (some d) d.length (runCalls cfg {} (pre ++ mid))).1.inn.status = STREAM_TUNNEL ∧
      (reqData cfg (some d) d.length (runCalls cfg {} (pre ++ mid))).1.inDataCounter = (runCalls cfg {} (pre ++ mid)).inDataCounter + d.length := by
  intro mid d hp hlen
  have hpre : NoClose pre := hn.prefix (List.prefix_append pre post)
  have hpost : NoClose post := fun cl hm => hn cl (List.mem_append.mpr (Or.inr hm))
  have hin : TunnelIn (runCalls cfg {} pre) := ⟨ht, hg, (history_tunnelPair cfg {} pre hpre tunnelPair_fresh).1 ht⟩
  rw [runCalls_append]
  exact history_tunnel_req_silent cfg _ post hpost hin mid d hp hlen

theorem history_tunnel_fresh_res (cfg : Cfg) (pre post : List Call) (hn : NoClose (pre ++ post))
    (ht : (runCalls cfg {} pre).out.status = STREAM_TUNNEL)
    (hg : (runCalls cfg {} pre).out.tx.isSome = true ∨ (runCalls cfg {} pre).outState = .idle) :
    ∀ mid d, mid ++ [.res d] <+: post → 0 < d.length →
      (resData cfg (some d) d.length (runCalls cfg {} (pre ++ mid))).2 = STREAM_TUNNEL ∧
      (resData cfg (some d) d.length (runCalls cfg {} (pre ++ mid))).1.events = (runCalls cfg {} (pre ++ mid)).events ∧
      (resData cfg (some d) d.length (runCalls cfg {} (pre ++ mid))).1.txs = (runCalls cfg {} (pre ++ mid)).txs ∧
      (resData cfg (some d) d.length (runCalls cfg {} (pre ++ mid))).1.out.status = STREAM_TUNNEL ∧
      (resData cfg (some d) d.length (runCalls cfg {} (pre ++ mid))).1.outDataCounter = (runCalls cfg {} (pre ++ mid)).outDataCounter + d.length := by
  intro mid d hp hlen
  have hpre : NoClose pre := hn.prefix (List.prefix_append pre post)
  have hpost : NoClose post := fun cl hm => hn cl (List.mem_append.mpr (Or.inr hm))
  have hout : TunnelOut (runCalls cfg {} pre) := ⟨ht, hg, (history_tunnelPair cfg {} pre hpre tunnelPair_fresh).2 ht⟩
  rw [runCalls_append]
  exact history_tunnel_res_silent cfg _ post hpost hout mid d hp hlen

/-- the example history: a CONNECT request, a 200 answer, then a client payload that is not HTTP (a TLS record) - the CONNECT probe switches
    both directions to tunnel mode -/
def connectTunnel : List Call :=
  [.open, .req (b!"CONNECT example.com:443 HTTP/1.1\r\nHost: example.com\r\n\r\n"), .res (b!"HTTP/1.1 200 OK\r\n\r\n"),
   .req (b!"\x16\x03\x01\x00\n")]

/-- after it both directions are in tunnel mode (so the theorems above apply to every continuation without closes) ... -/
example : TunnelIn (runCalls {} {} connectTunnel) ∧ TunnelOut (runCalls {} {} connectTunnel) ∧
    (reqData {} (some (b!"\x16\x03\x01\x00\n")) 5 (runCalls {} {} (connectTunnel.take 3))).2 = STREAM_TUNNEL := by decide +kernel

/-- ... and concretely: further data calls of both directions, interleaved with htp_connp_open and htp_connp_tx_freed, are all answered
    STREAM_TUNNEL, and the event log does not grow (11 callbacks ran before the switch, 11 at the end) -/
example :
    let c := runCalls {} {} connectTunnel
    let c1 := (reqData {} (some (b!"GET / HTTP/1.1\r\n\r\n")) 18 c)
    let c2 := (resData {} (some (b!"HTTP/1.1 404 Not Found\r\n\r\n")) 26 c1.1)
    let c3 := runCalls {} c2.1 [.txFreed, .open]
    let c4 := (reqData {} (some (b!"\x00\x01")) 2 c3)
    let c5 := (resData {} (some (b!"\n")) 1 c4.1)
    c.events.length = 11 ∧ c1.2 = STREAM_TUNNEL ∧ c2.2 = STREAM_TUNNEL ∧ c4.2 = STREAM_TUNNEL ∧ c5.2 = STREAM_TUNNEL ∧
    c5.1.events = c.events ∧ c5.1.txs.length = c.txs.length ∧ c5.1.inn.status = STREAM_TUNNEL ∧ c5.1.out.status = STREAM_TUNNEL ∧
    c5.1.inDataCounter = c.inDataCounter + 20 ∧ c5.1.outDataCounter = c.outDataCounter + 27 := by decide +kernel

/-- **the status alone is not kept by the calls of the other direction** (why `TunnelIn` asks for a quiet response direction): in a state
    whose request direction has status TUNNEL and a current transaction, but whose response direction still parses, the refusal of the
    CONNECT (`resRefusedConnect`: `in_status = HTP_STREAM_DATA` unless ERROR or STOP) overwrites TUNNEL with DATA. The state is made up: the
    two places that set TUNNEL write both directions (`history_tunnelPair`: it is not reachable from a fresh parser without closes). -/
theorem tunnel_status_alone_not_kept_by_res :
    let c := runCalls {} {} [.open, .req (b!"CONNECT example.com:443 HTTP/1.1\r\nHost: example.com\r\n\r\n")]
    let c0 : Conn := { c with inn := { c.inn with status := STREAM_TUNNEL } }
    c0.inn.status = STREAM_TUNNEL ∧ c0.inn.tx.isSome = true ∧ ¬ Quiet c0.out.status ∧
    (runCalls {} c0 [.res (b!"HTTP/1.1 403 Forbidden\r\n\r\n")]).inn.status = STREAM_DATA := by decide +kernel

/-- the same for the response direction (why `TunnelOut` asks for a quiet request direction): with tx_auto_destroy, a request direction that
    still parses completes the transaction the response direction holds (`txFinalize` destroys it, `out.tx` becomes NULL while the response
    state is not IDLE), and the next response data call fails its guard: STREAM_ERROR instead of STREAM_TUNNEL. Again a made-up state
    (it violates `TunnelPair`). -/
theorem tunnel_status_alone_not_kept_by_req :
    let cfg : Cfg := { txAutoDestroy := true }
    let c := runCalls cfg {} [.open, .req (b!"CONNECT example.com:443 HTTP/1.1\r\nHost: example.com\r\n\r\nG"), .res (b!"HTTP/1.1 200 OK\r\n\r\n")]
    let c0 : Conn := { c with out := { c.out with status := STREAM_TUNNEL } }
    let c1 := runCalls cfg c0 [.req (b!"GET / HTTP/1.1\r\n")]
    c0.out.status = STREAM_TUNNEL ∧ c0.out.tx.isSome = true ∧ ¬ Quiet c0.inn.status ∧
    c1.out.status = STREAM_TUNNEL ∧ c1.out.tx = none ∧ c1.outState = .finalize ∧
    (resData cfg (some (b!"x")) 1 c1).2 = STREAM_ERROR := by decide +kernel

/-- **the call guard is not implied by the status** (why `TunnelIn` carries it) - in a REACHABLE state: a fresh parser, no close. A complete
    request followed by an HTTP/0.9 request leaves the request parser in IGNORE_DATA_AFTER_HTTP_0_9 without a current transaction; the 101
    answer to the first request switches both directions to TUNNEL (`resSwitchTunnel`); the next request data call fails the guard
    `in_tx == NULL && in_state != IDLE`, returns STREAM_ERROR and overwrites TUNNEL with ERROR. -/
theorem tunnel_status_without_guard_not_absorbing :
    let calls : List Call := [.open, .req (b!"GET /a HTTP/1.1\r\nHost: x\r\n\r\nGET /\n"), .res (b!"HTTP/1.1 101 Switching Protocols\r\n\r\n")]
    let c := runCalls {} {} calls
    NoClose calls ∧ c.inn.status = STREAM_TUNNEL ∧ c.out.status = STREAM_TUNNEL ∧ c.inn.tx = none ∧ c.inState = .ignoreDataAfter09 ∧
    TunnelOut c ∧ ¬ TunnelIn c ∧
    (reqData {} (some (b!"abc")) 3 c).2 = STREAM_ERROR ∧ (reqData {} (some (b!"abc")) 3 c).1.inn.status = STREAM_ERROR := by decide +kernel

/-- why closes are excluded (finding S8-tunnel): htp_connp_req_close / htp_connp_close overwrite TUNNEL with CLOSED and run the parser
    again (here it ends in DATA) -/
theorem tunnel_not_kept_by_close :
    (runCalls {} {} (connectTunnel ++ [.reqClose])).inn.status = STREAM_DATA ∧
    (runCalls {} {} (connectTunnel ++ [.close])).inn.status = STREAM_DATA ∧
    (runCalls {} {} (connectTunnel ++ [.close])).out.status = STREAM_DATA := by decide +kernel

end Htp.Conn
