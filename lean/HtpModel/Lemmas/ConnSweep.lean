/- What a function of the connection model may do to the connection record, function by function, once for all the facts that are
   kept over whole call histories: the callback log is only extended (`Ext`), the byte counters are written by the two store-chunk
   steps only (`KeepCtr`), `out_next_tx_index` does not pass the end of the transaction list and HTP_CONN_PIPELINED is never cleared (`KeepIdx`,
   `OkIdx`, `IdxInv`), the list grows by transaction creation only and that is capped by `max_tx` (`GrowB`), `in_tx` / `out_tx`
   name live transactions (`KeepRef`, Lemmas/RefsValid.lean), and every stored transaction continues one stored before or is new
   (`TxsRel`, Lemmas/TxsRel.lean: indicator bits, accounted lengths, request progress, repetition counters, Content-Length).

   It is one relation, a record with a coordinate per fact, in three strengths - each the weakening of the one before
   (`Keeps.within`, `Within.calls`) - because two coordinates do not hold in their strong form everywhere:
   `Keeps m` - everything, with the index not written - holds for the request side up to its driver loop (transaction creation
   included: the length coordinate is the capped form, `m` being `max_tx`) and for the response side below RES_IDLE;
   `Within m` - the index only kept from passing the end of the list - for RES_IDLE, which moves it, and what calls it up to a response data call
   (Lemmas/ConnSweepOut.lean);
   `Calls m` - `Within` without the byte counters, which a data call advances - for a data call of either direction
   (Lemmas/ConnSweepOut.lean), the parts of a call, the six calls of the embedder and whole histories (Lemmas/ConnSweepHist.lean).
   A step that writes none of the fields read here is `.same rfl`. The model's functions are covered by the general walks
   (`keeps_cb`, `keeps_fn`, `reqRelS_keeps`: Lemmas/Conn.lean, TxWalk.lean, StateWalk.lean); this file shows the primitive writes. -/
import HtpModel.Lemmas.RefsValid
import HtpModel.Lemmas.TxsRel
import HtpModel.Lemmas.StateWalk
namespace Htp.Conn
open Htp Htp.Gen

/-- `c'` extends the callback log of `c`: the old events are a suffix of the new log (newest first), in the same order, and the
    counter grew by exactly the number of new events (one event per counted callback) -/
def Ext (c c' : Conn) : Prop := ∃ new : List Event, c'.events = new ++ c.events ∧ c'.cbCount = c.cbCount + new.length

theorem Ext.refl (c : Conn) : Ext c c := ⟨[], rfl, rfl⟩

theorem Ext.trans {a b c : Conn} (h1 : Ext a b) (h2 : Ext b c) : Ext a c := by
  obtain ⟨n1, e1, k1⟩ := h1
  obtain ⟨n2, e2, k2⟩ := h2
  refine ⟨n2 ++ n1, ?_, ?_⟩
  · rw [e2, e1, List.append_assoc]
  · rw [k2, k1, List.length_append]; omega

/-- the transaction list is no longer than it was, or than `B`: the form of "capped by `B`" that holds from any state, also one that
    starts above the cap, and composes -/
structure GrowB (B : Nat) (c c' : Conn) : Prop where
  le : c'.txs.length ≤ max c.txs.length B

theorem GrowB.refl (B : Nat) (c : Conn) : GrowB B c c := ⟨Nat.le_max_left _ _⟩
theorem GrowB.trans {B : Nat} {a b c : Conn} (h1 : GrowB B a b) (h2 : GrowB B b c) : GrowB B a c := by
  have := h1.le; have := h2.le
  exact ⟨by omega⟩

theorem GrowB.of_length_eq {B : Nat} {c c' : Conn} (h : c'.txs.length = c.txs.length) : GrowB B c c' :=
  ⟨by rw [h]; exact Nat.le_max_left _ _⟩

theorem growB_andThen {B : Nat} (c0 : Conn) (r : R) (f : Conn → R) (h1 : GrowB B c0 r.1) (h2 : ∀ c, GrowB B c (f c).1) :
    GrowB B c0 (r >>? f).1 := by
  unfold R.andThen
  split
  · exact h1.trans (h2 r.1)
  · exact h1

def KeepCtr (c c' : Conn) : Prop := c'.inDataCounter = c.inDataCounter ∧ c'.outDataCounter = c.outDataCounter

theorem KeepCtr.refl (c : Conn) : KeepCtr c c := ⟨rfl, rfl⟩
theorem KeepCtr.trans {a b c : Conn} (h1 : KeepCtr a b) (h2 : KeepCtr b c) : KeepCtr a c :=
  ⟨h2.1.trans h1.1, h2.2.trans h1.2⟩

/-- the upper bound only; `0 ≤ index` is no part of it and is not kept by htp_connp_tx_freed (witness at the end of Lemmas/OutIndex.lean) -/
def IdxInv (c : Conn) : Prop := c.outNextTxIndex ≤ (c.txs.length : Int)

structure KeepIdx (c c' : Conn) : Prop where
  idx : c'.outNextTxIndex = c.outNextTxIndex
  len : c.txs.length ≤ c'.txs.length
  pip : hasFlag c.connFlags CONN_PIPELINED = true → hasFlag c'.connFlags CONN_PIPELINED = true

structure OkIdx (c c' : Conn) : Prop where
  inv : IdxInv c → IdxInv c'
  pip : hasFlag c.connFlags CONN_PIPELINED = true → hasFlag c'.connFlags CONN_PIPELINED = true

theorem KeepIdx.refl (c : Conn) : KeepIdx c c := ⟨rfl, Nat.le_refl _, id⟩
theorem KeepIdx.trans {a b c : Conn} (h1 : KeepIdx a b) (h2 : KeepIdx b c) : KeepIdx a c :=
  ⟨h2.idx.trans h1.idx, Nat.le_trans h1.len h2.len, fun h => h2.pip (h1.pip h)⟩
theorem OkIdx.refl (c : Conn) : OkIdx c c := ⟨id, id⟩
theorem OkIdx.trans {a b c : Conn} (h1 : OkIdx a b) (h2 : OkIdx b c) : OkIdx a c :=
  ⟨fun h => h2.inv (h1.inv h), fun h => h2.pip (h1.pip h)⟩
theorem KeepIdx.ok {c c' : Conn} (h : KeepIdx c c') : OkIdx c c' := by
  refine ⟨fun hi => ?_, h.pip⟩
  have := h.idx; have := h.len
  unfold IdxInv at hi ⊢
  omega

/-- what the coordinates read of a state, the two references apart -/
@[reducible] def callView (c : Conn) : List Event × Nat × Int × Nat × List (Option Tx) × Nat :=
  (c.events, c.cbCount, c.outNextTxIndex, c.connFlags, c.txs, c.nextUid)
@[reducible] def watched (c : Conn) : Nat × Nat × List Event × Nat × Int × Nat × List (Option Tx) × Nat :=
  (c.inDataCounter, c.outDataCounter, callView c)

/-- every fact in its strong form. `m` is `max_tx`, 0 = no cap; creation refuses once more than `max_tx` transactions are held, so
    the list is capped by `m + 1` -/
structure Keeps (m : Nat) (c c' : Conn) : Prop where
  ext : Ext c c'
  ctr : KeepCtr c c'
  idx : KeepIdx c c'
  /-- only with a cap: the list is no longer than before or than `m + 1` (`GrowB.le`) -/
  len : 0 < m → GrowB (m + 1) c c'
  ref : KeepRef c c'
  tx : TxsRel c c'

/-- `Keeps` with the index only kept within the list (`OkIdx`) -/
structure Within (m : Nat) (c c' : Conn) : Prop where
  ext : Ext c c'
  ctr : KeepCtr c c'
  idx : OkIdx c c'
  len : 0 < m → GrowB (m + 1) c c'
  ref : KeepRef c c'
  tx : TxsRel c c'

/-- `Within` without the byte counters: what a call of the embedder keeps. A family's history theorem is `(calls_prefix cfg c0 hp).<field>`;
    a per-transaction fact is `.tx.find hy h1 h2 : TxCont t t'`, with `Hyg` of the state before only - over a history
    `(calls_runCalls cfg c0 pre).tx.hyg h0` gives it from the start state's. -/
structure Calls (m : Nat) (c c' : Conn) : Prop where
  ext : Ext c c'
  idx : OkIdx c c'
  len : 0 < m → GrowB (m + 1) c c'
  ref : KeepRef c c'
  tx : TxsRel c c'

variable {m : Nat}

theorem Keeps.refl (c : Conn) : Keeps m c c := ⟨.refl c, .refl c, .refl c, fun _ => .refl _ c, .refl c, .refl c⟩
theorem Keeps.trans {a b c : Conn} (h1 : Keeps m a b) (h2 : Keeps m b c) : Keeps m a c :=
  ⟨h1.ext.trans h2.ext, h1.ctr.trans h2.ctr, h1.idx.trans h2.idx, fun hm => (h1.len hm).trans (h2.len hm), h1.ref.trans h2.ref,
    h1.tx.trans h2.tx⟩
theorem Within.refl (c : Conn) : Within m c c := ⟨.refl c, .refl c, .refl c, fun _ => .refl _ c, .refl c, .refl c⟩
theorem Within.trans {a b c : Conn} (h1 : Within m a b) (h2 : Within m b c) : Within m a c :=
  ⟨h1.ext.trans h2.ext, h1.ctr.trans h2.ctr, h1.idx.trans h2.idx, fun hm => (h1.len hm).trans (h2.len hm), h1.ref.trans h2.ref,
    h1.tx.trans h2.tx⟩
theorem Calls.refl (c : Conn) : Calls m c c := ⟨.refl c, .refl c, fun _ => .refl _ c, .refl c, .refl c⟩
theorem Calls.trans {a b c : Conn} (h1 : Calls m a b) (h2 : Calls m b c) : Calls m a c :=
  ⟨h1.ext.trans h2.ext, h1.idx.trans h2.idx, fun hm => (h1.len hm).trans (h2.len hm), h1.ref.trans h2.ref, h1.tx.trans h2.tx⟩

theorem Keeps.within {c c' : Conn} (h : Keeps m c c') : Within m c c' := ⟨h.ext, h.ctr, h.idx.ok, h.len, h.ref, h.tx⟩
theorem Within.calls {c c' : Conn} (h : Within m c c') : Calls m c c' := ⟨h.ext, h.idx, h.len, h.ref, h.tx⟩

theorem Calls.of_ref {c c' : Conn} (h : callView c' = callView c) (hr : KeepRef c c') : Calls m c c' := by
  have e3 : c'.outNextTxIndex = c.outNextTxIndex := congrArg (·.2.2.1) h
  have e4 : c'.connFlags = c.connFlags := congrArg (·.2.2.2.1) h
  have e5 : c'.txs = c.txs := congrArg (·.2.2.2.2.1) h
  refine ⟨⟨[], congrArg (·.1) h, congrArg (·.2.1) h⟩, ⟨fun hv => ?_, fun hp => ?_⟩, fun _ => .of_length_eq (by rw [e5]), hr,
    .frame e5 (congrArg (·.2.2.2.2.2) h)⟩
  · unfold IdxInv; rw [e3, e5]; exact hv
  · rw [e4]; exact hp

theorem Keeps.of_ref {c c' : Conn} (h : watched c' = watched c) (hr : KeepRef c c') : Keeps m c c' := by
  have hc : callView c' = callView c := congrArg (·.2.2) h
  have k : Calls m c c' := .of_ref hc hr
  have e4 : c'.connFlags = c.connFlags := congrArg (·.2.2.2.1) hc
  have e5 : c'.txs = c.txs := congrArg (·.2.2.2.2.1) hc
  exact ⟨k.ext, ⟨congrArg (·.1) h, congrArg (·.2.1) h⟩,
    ⟨congrArg (·.2.2.1) hc, by rw [e5]; exact Nat.le_refl _, fun hp => by rw [e4]; exact hp⟩, k.len, hr, k.tx⟩

theorem Calls.same {c c' : Conn} (h : callView c' = callView c) (hi : c'.inn.tx = c.inn.tx := by rfl)
    (ho : c'.out.tx = c.out.tx := by rfl) : Calls m c c' :=
  .of_ref h (keepRef_of_same ⟨congrArg (·.2.2.2.2.1) h, hi, ho, congrArg (·.2.2.2.2.2) h⟩)

theorem Keeps.same {c c' : Conn} (h : watched c' = watched c) (hi : c'.inn.tx = c.inn.tx := by rfl)
    (ho : c'.out.tx = c.out.tx := by rfl) : Keeps m c c' :=
  .of_ref h (keepRef_of_same ⟨congrArg (·.2.2.2.2.2.2.1) h, hi, ho, congrArg (·.2.2.2.2.2.2.2) h⟩)

theorem Within.same {c c' : Conn} (h : watched c' = watched c) (hi : c'.inn.tx = c.inn.tx := by rfl)
    (ho : c'.out.tx = c.out.tx := by rfl) : Within m c c' := (Keeps.same h hi ho).within

/-- a step that an erasure `e` of fields the coordinates do not read does not see -/
theorem Keeps.of_erase {c c' : Conn} (e : Conn → Conn) (h : e c' = e c)
    (he : ∀ x, (watched (e x), (e x).inn.tx, (e x).out.tx) = (watched x, x.inn.tx, x.out.tx) := by exact fun _ => rfl) : Keeps m c c' :=
  have k := (he c').symm.trans ((congrArg (fun x => (watched x, x.inn.tx, x.out.tx)) h).trans (he c))
  .same (congrArg (·.1) k) (congrArg (·.2.1) k) (congrArg (·.2.2) k)

theorem Calls.from {a b c : Conn} (h2 : Calls m b c) (h1 : callView b = callView a) (hi : b.inn.tx = a.inn.tx := by rfl)
    (ho : b.out.tx = a.out.tx := by rfl) : Calls m a c := (Calls.same h1 hi ho).trans h2

theorem keeps_inn (c : Conn) (d : Dir) (h : d.tx = c.inn.tx := by rfl) : Keeps m c { c with inn := d } := .same rfl h
theorem keeps_out (c : Conn) (d : Dir) (h : d.tx = c.out.tx := by rfl) : Keeps m c { c with out := d } := .same rfl rfl h

theorem Keeps.of_txsWrite {c c' : Conn} (h : (c'.inDataCounter, c'.outDataCounter, c'.events, c'.cbCount, c'.outNextTxIndex, c'.connFlags) =
      (c.inDataCounter, c.outDataCounter, c.events, c.cbCount, c.outNextTxIndex, c.connFlags))
    (hl : c'.txs.length = c.txs.length) (hr : KeepRef c c') (ht : TxsRel c c') : Keeps m c c' := by
  have e4 : c'.connFlags = c.connFlags := congrArg (·.2.2.2.2.2) h
  exact ⟨⟨[], congrArg (·.2.2.1) h, congrArg (·.2.2.2.1) h⟩, ⟨congrArg (·.1) h, congrArg (·.2.1) h⟩,
    ⟨congrArg (·.2.2.2.2.1) h, Nat.le_of_eq hl.symm, fun hp => by rw [e4]; exact hp⟩, fun _ => .of_length_eq hl, hr, ht⟩

theorem setTx_length (t : Tx) (c : Conn) : (c.setTx t).txs.length = c.txs.length := by
  unfold Conn.setTx; exact List.length_map _

theorem modTx_length (u : Nat) (f : Tx → Tx) (c : Conn) : (c.modTx u f).txs.length = c.txs.length := by
  unfold Conn.modTx; exact List.length_map _

/-- htp_tx_destroy leaves the slot (as NULL): the length is the same -/
theorem destroyTx_length (u : Nat) (c : Conn) : (destroyTx u c).txs.length = c.txs.length := by
  unfold destroyTx; exact List.length_map _

theorem keeps_setTx_find {c : Conn} {uid : Nat} {t0 t : Tx} (hf : c.findTx uid = some t0) (h : TxCont t0 t) : Keeps m c (c.setTx t) :=
  .of_txsWrite rfl (setTx_length t c) (keepRef_setTx t c) (txsRel_setTx_find hf h)

theorem keeps_modTx (u : Nat) (f : Tx → Tx) (c : Conn) (hf : ∀ t, TxCont t (f t) := by exact fun _ => by tx_cont) :
    Keeps m c (c.modTx u f) :=
  .of_txsWrite rfl (modTx_length u f c) (keepRef_modTx u f c fun t => (hf t).uid) (txsRel_modTx u f c hf)

theorem keeps_destroyTx (u : Nat) (c : Conn) : Keeps m c (destroyTx u c) :=
  .of_txsWrite rfl (destroyTx_length u c) (keepRef_destroyTx u c) (txsRel_destroyTx u c)

theorem keeps_clearIn (c : Conn) (d : Dir) (h : d.tx = none) : Keeps m c { c with inn := d } := .of_ref rfl (keepRef_clearIn c d h)
theorem keeps_clearOut (c : Conn) (d : Dir) (h : d.tx = none) : Keeps m c { c with out := d } := .of_ref rfl (keepRef_clearOut c d h)

theorem keeps_setOut (c : Conn) (d : Dir) (u : Nat) (h : d.tx = some u) (hl : RefsInv c → Live c u) : Keeps m c { c with out := d } :=
  .of_ref rfl ⟨fun hc => (keepRef_setOut c d u h (hl hc)).keep hc⟩

theorem keeps_setFlag (c : Conn) (b : Nat) : Keeps m c { c with connFlags := setFlag c.connFlags b } :=
  ⟨⟨[], rfl, rfl⟩, ⟨rfl, rfl⟩, ⟨rfl, Nat.le_refl _, fun h => hasFlag_mono _ _ _ h⟩, fun _ => ⟨Nat.le_max_left _ _⟩,
    keepRef_of_same ⟨rfl, rfl, rfl, rfl⟩, .frame rfl rfl⟩

theorem growB_txCreate (cfg : Cfg) (hm : 0 < cfg.maxTx) (c : Conn) : GrowB (cfg.maxTx + 1) c (txCreate cfg c).1 := by
  refine ⟨?_⟩
  unfold txCreate
  simp only
  split
  · exact Nat.le_max_left _ _
  · rename_i hc
    simp only [List.length_append, List.length_cons, List.length_nil]
    have : ¬ (c.txs.length > cfg.maxTx) := by
      intro hgt
      apply hc
      simp [hm, hgt]
    omega

theorem txCreate_length_le (cfg : Cfg) (c : Conn) : (txCreate cfg c).1.txs.length ≤ c.txs.length + 1 := by
  unfold txCreate
  simp only
  split
  · exact Nat.le_succ _
  · simp only [List.length_append, List.length_cons, List.length_nil]
    exact Nat.le_refl _

theorem keepIdx_txCreate (cfg : Cfg) (c : Conn) : KeepIdx c (txCreate cfg c).1 := by
  have hp : hasFlag c.connFlags CONN_PIPELINED = true →
      hasFlag (if (c.txs.length : Int) > c.outNextTxIndex then setFlag c.connFlags CONN_PIPELINED else c.connFlags) CONN_PIPELINED = true := by
    intro h
    split
    · exact hasFlag_mono _ _ _ h
    · exact h
  unfold txCreate
  simp only
  split
  · exact ⟨rfl, Nat.le_refl _, hp⟩
  · refine ⟨rfl, ?_, hp⟩
    simp only [List.length_append, List.length_cons, List.length_nil]
    exact Nat.le_succ _

theorem keeps_txCreate (cfg : Cfg) (c : Conn) : Keeps cfg.maxTx c (txCreate cfg c).1 := by
  refine ⟨?_, ?_, keepIdx_txCreate cfg c, fun hm => growB_txCreate cfg hm c, keepRef_txCreate cfg c, txsRel_txCreate cfg c⟩
  · unfold txCreate
    simp only
    split <;> exact ⟨[], rfl, rfl⟩
  · unfold txCreate
    simp only
    split <;> exact ⟨rfl, rfl⟩

theorem keeps_log (ev : Event) (c : Conn) : Keeps m c { c with cbCount := c.cbCount + 1, events := ev :: c.events } :=
  ⟨⟨[ev], rfl, rfl⟩, ⟨rfl, rfl⟩, ⟨rfl, Nat.le_refl _, id⟩, fun _ => ⟨Nat.le_max_left _ _⟩, keepRef_of_same ⟨rfl, rfl, rfl, rfl⟩,
    .frame rfl rfl⟩

theorem keeps_cb : CbRel (Keeps m) where
  refl := Keeps.refl
  trans := Keeps.trans
  log := keeps_log
  destroyTx := keeps_destroyTx
  modTx u f c hf := keeps_modTx u f c hf
  setTx _ hf h := keeps_setTx_find hf h
  book := .of_erase cbCore

theorem keeps_fn : ReqFnRel (fun _ => True) (Keeps m) where
  toCbRel := keeps_cb
  aux := .of_erase reqCore
  toState _ _ _ := .same rfl
  clearIn c := keeps_clearIn c _ rfl

theorem keeps_txStateRequestComplete (cfg : Cfg) (uid : Nat) (c : Conn) : Keeps m c (txStateRequestComplete cfg uid c).1 :=
  walk_txStateRequestComplete keeps_fn ..

/-- REQ_IDLE creates a transaction, so the length coordinate is at the `max_tx` of the configuration; the cursors are not bounded
    (`B` is `False`). -/
theorem reqRelS_keeps (cfg : Cfg) : ReqRelS cfg False (fun _ => True) (Keeps cfg.maxTx) where
  toReqFnRel := keeps_fn
  same := .of_erase reqView
  flag09 c := keeps_setFlag c _
  cursor h := keeps_inn _ _ (congrArg Dir.tx h.frame :)
  txCreate := keeps_txCreate cfg
  status c s := keeps_inn c _
  outTunnel c := keeps_out c _

theorem keeps_reqHandleStateChange (cfg : Cfg) (c : Conn) : Keeps cfg.maxTx c (reqHandleStateChange c).1 :=
  walk_reqHandleStateChange (reqRelS_keeps cfg).toReqFnRel c

theorem keeps_reqStateFn (cfg : Cfg) (c : Conn) : Keeps cfg.maxTx c (reqStateFn cfg c).1 :=
  walk_reqStateFn cfg (reqRelS_keeps cfg) c (fun hb => hb.elim) (fun hb => hb.elim)

theorem keeps_reqDriverLoop (cfg : Cfg) (gap : Bool) (fuel : Nat) (c : Conn) : Keeps cfg.maxTx c (reqDriverLoop cfg gap fuel c).1 :=
  walk_reqDriverLoop cfg (reqRelS_keeps cfg) id gap fuel c

end Htp.Conn
