/- Nine small bstr.c / htp_util.c functions as translated in HtpModel/Gen/CFuns.lean = the hand-written models in
   `Htp.Bstr` / `Htp.Parse`, for all inputs: htp_connp_is_line_folded, bstr_char_at, bstr_char_at_end, bstr_chop, bstr_chr, bstr_rchr,
   bstr_begins_with_mem, bstr_begins_with_mem_nocase, bstr_to_lowercase. A `bstr *` is its content `memOf d` and its length:
   every equation takes the buffer as `memOf d` with length `d.length` and, where the function writes, returns `memOf (model d)`; to chain
   two, instantiate the second at `model d` and rewrite its length (`C17_lowercase_length`). `Bstr.toLowercase` is `Bstr.lower` by `rfl`.
   The names of this file are in `Htp.CFuns.BstrC`. -/
import HtpModel.Lemmas.CFunsLine
import HtpModel.Prim.Bstr
namespace Htp.CFuns.BstrC
open Htp Htp.CSem Htp.Gen.C Htp.Gen

theorem bstr_char_at_eq (fuel : Nat) (d : Bytes) (pos : Nat) :
    (bstr_char_at fuel (memOf d) d.length pos).map (·.1)
      = some (match Bstr.charAt d pos with | some c => (c.toNat : Int) | none => -1) := by
  unfold bstr_char_at
  rw [run_val]
  unfold bstr_char_at_stmt Bstr.charAt
  by_cases h : pos < d.length
  · have hc : ¬ ((pos : Int) ≥ (d.length : Int)) := by omega
    simp [seqS, assignS, iteS, retS, skipS, retVal, hc, rdM_memOf_lt d pos h, List.getElem?_eq_getElem h]
  · have hc : ((pos : Int) ≥ (d.length : Int)) := by omega
    have hn : d[pos]? = none := List.getElem?_eq_none (by omega)
    simp [seqS, assignS, iteS, retS, retVal, hc, hn]

theorem bstr_char_at_end_eq (fuel : Nat) (d : Bytes) (h1 : d.length < 9223372036854775808) (pos : Nat) :
    (bstr_char_at_end fuel (memOf d) d.length pos).map (·.1)
      = some (match Bstr.charAtEnd d pos with | some c => (c.toNat : Int) | none => -1) := by
  unfold bstr_char_at_end
  rw [run_val]
  unfold bstr_char_at_end_stmt Bstr.charAtEnd
  by_cases h : pos < d.length
  · have hc : ¬ ((pos : Int) ≥ (d.length : Int)) := by omega
    have hc' : ¬ (pos ≥ d.length) := by omega
    have hk : d.length - 1 - pos < d.length := by omega
    have hu : u64 (u64 ((d.length : Int) - 1) - (pos : Int)) = ((d.length - 1 - pos : Nat) : Int) := by
      rw [u64_id (v := (d.length : Int) - 1) (by omega) (by omega), u64_id (by omega) (by omega)]; omega
    simp [seqS, assignS, iteS, retS, skipS, retVal, hc, hc', hu, rdM_memOf_lt d _ hk, List.getElem?_eq_getElem hk]
  · have hc : ((pos : Int) ≥ (d.length : Int)) := by omega
    have hc' : (pos ≥ d.length) := by omega
    simp [seqS, assignS, iteS, retS, retVal, hc, hc']

theorem bstr_chop_eq (fuel : Nat) (d : Bytes) (h1 : d.length < 9223372036854775808) :
    bstr_chop fuel (memOf d) d.length = some (0, { b_len := ((Bstr.chop d).length : Int), b_mem := memOf d }) := by
  unfold bstr_chop run bstr_chop_stmt Bstr.chop
  by_cases h : 0 < d.length
  · have hc : ((d.length : Int) > 0) := by omega
    have hu : u64 ((d.length : Int) - 1) = ((d.length - 1 : Nat) : Int) := by rw [u64_id] <;> omega
    simp [seqS, assignS, iteS, retS, h, hu]
  · have hc : ¬ ((d.length : Int) > 0) := by omega
    have h0 : d.length = 0 := by omega
    simp [seqS, iteS, retS, skipS, h0]

/-- the callee is the translated `htp_is_folding_char` -/
theorem htp_connp_is_line_folded_eq (fuel : Nat) (d : Bytes) :
    (htp_connp_is_line_folded fuel d d.length).map (·.1)
      = some (match Parse.isLineFolded d with | none => -1 | some b => b2i b) := by
  unfold htp_connp_is_line_folded
  rw [run_val]
  unfold htp_connp_is_line_folded_stmt Parse.isLineFolded
  cases d with
  | nil => simp [seqS, iteS, retS, retVal]
  | cons x t =>
    have hne : ¬ (((x :: t).length : Int) = 0) := by simp; omega
    have hf := folding_table x
    simp only [seqS, iteS, retS, skipS, retVal, hne, rd_cons_zero, htp_is_folding_char_int, Bool.false_or, decide_false,
      Option.bind_some, Option.map_some, hf]

abbrev CH (d : Bytes) (c : UInt8) (p : Nat) : St_bstr_chr :=
  { b_len := d.length, c := c.toNat, len := d.length, i := p, b_mem := memOf d }

theorem chr_loop (F : Nat) (d : Bytes) (c : UInt8) (h1 : d.length < 2147483648) (n p : Nat) (hn : d.length - p < n) :
    retVal (seqS (whileF (bstr_chr_cond1 F) (bstr_chr_body1 F) (bstr_chr_incr1 F) n) (bstr_chr_rest1 F) (CH d c p))
      = some (match Bstr.chrAux c (d.drop p) p with | some i => (i : Int) | none => -1) := by
  refine loop_eq retVal (CH d c) (fun _ => True) (d.length - ·)
    (fun p => some (match Bstr.chrAux c (d.drop p) p with | some i => (i : Int) | none => -1)) ?_ n p trivial hn
  intro p _ again ih
  cases ha : d.drop p with
  | nil =>
    simp [turn, bstr_chr_cond1, bstr_chr_rest1, Nat.not_lt.2 (le_of_drop_nil ha), Bstr.chrAux]
  | cons x t =>
    have hl := lt_of_drop_cons ha
    simp only [turn, bstr_chr_cond1, bstr_chr_body1, bstr_chr_incr1, CH, rdM_of_drop ha, toNat_int_inj, i32_nat p (by omega),
      u64_succ p (by omega), go_seqS, go_iteS, go_retS, go_skipS, go_assignS, Option.bind_some, Int.ofNat_lt, hl, decide_true, if_true,
      retVal_ite, retVal_retS, ih (p + 1) trivial (by omega), drop_succ_of_drop ha, Bstr.chrAux, decide_eq_true_eq, beq_iff_eq]
    split <;> rfl

/-- `h1`: the `(int)` conversion of the index is exact -/
theorem bstr_chr_eq (d : Bytes) (c : UInt8) (h1 : d.length < 2147483648) (fuel : Nat) (hf : d.length < fuel) :
    (bstr_chr fuel (memOf d) d.length c.toNat).map (·.1)
      = some (match Bstr.chr d c with | some i => (i : Int) | none => -1) := by
  unfold bstr_chr
  rw [run_val]
  exact chr_loop fuel d c h1 fuel 0 (by omega)

theorem rchrAux_snoc (c x : UInt8) : ∀ (a : Bytes) (i : Nat) (acc : Option Nat),
    Bstr.rchrAux c (a ++ [x]) i acc = if x == c then some (i + a.length) else Bstr.rchrAux c a i acc := by
  intro a
  induction a with
  | nil => intro i acc; simp [Bstr.rchrAux]
  | cons h t ih =>
    intro i acc
    simp only [List.cons_append, Bstr.rchrAux, ih, List.length_cons]
    have : i + 1 + t.length = i + (t.length + 1) := by omega
    rw [this]

theorem rchr_take_succ (d : Bytes) (c : UInt8) (p : Nat) (h : p < d.length) :
    Bstr.rchr (d.take (p + 1)) c = if d[p] == c then some p else Bstr.rchr (d.take p) c := by
  unfold Bstr.rchr
  rw [List.take_succ_eq_append_getElem h, rchrAux_snoc]
  simp [List.length_take, Nat.min_eq_left (Nat.le_of_lt h)]

abbrev RC (d : Bytes) (c : UInt8) (p : Nat) : St_bstr_rchr :=
  { b_len := d.length, c := c.toNat, len := d.length, i := p, b_mem := memOf d }

theorem rchr_loop (F : Nat) (d : Bytes) (c : UInt8) (h1 : d.length < 2147483648) (n p : Nat) (hp : p ≤ d.length) (hn : p < n) :
    retVal (seqS (whileF (bstr_rchr_cond1 F) (bstr_rchr_body1 F) (bstr_rchr_incr1 F) n) (bstr_rchr_rest1 F) (RC d c p))
      = some (match Bstr.rchr (d.take p) c with | some i => (i : Int) | none => -1) := by
  refine loop_eq retVal (RC d c) (· ≤ d.length) id
    (fun p => some (match Bstr.rchr (d.take p) c with | some i => (i : Int) | none => -1)) ?_ n p hp hn
  intro p hp again ih
  cases p with
  | zero => simp [turn, bstr_rchr_cond1, bstr_rchr_rest1, Bstr.rchr, Bstr.rchrAux]
  | succ q =>
    have hq : q < d.length := hp
    have hu : u64 (((q + 1 : Nat) : Int) - 1) = (q : Int) := by rw [u64_id] <;> omega
    have hpos : ((q + 1 : Nat) : Int) > 0 := by omega
    simp only [turn, bstr_rchr_cond1, bstr_rchr_body1, bstr_rchr_incr1, RC, hpos, hu, rdM_memOf_lt d q hq, toNat_int_inj,
      i32_nat q (by omega), go_seqS, go_iteS, go_retS, go_skipS, go_assignS, Option.bind_some, decide_true, if_true,
      retVal_ite, retVal_retS, ih q (Nat.le_of_lt hq) (Nat.lt_succ_self q), rchr_take_succ d c q hq, decide_eq_true_eq, beq_iff_eq]
    split <;> rfl

/-- the C scans backwards from the end, the model forwards, remembering the last match -/
theorem bstr_rchr_eq (d : Bytes) (c : UInt8) (h1 : d.length < 2147483648) (fuel : Nat) (hf : d.length < fuel) :
    (bstr_rchr fuel (memOf d) d.length c.toNat).map (·.1)
      = some (match Bstr.rchr d c with | some i => (i : Int) | none => -1) := by
  unfold bstr_rchr
  rw [run_val]
  have := rchr_loop fuel d c h1 fuel d.length (Nat.le_refl _) hf
  rw [List.take_length] at this
  exact this

/-- the loop of bstr_begins_with_mem and bstr_begins_with_mem_nocase, followed by `return pos == len` -/
theorem begins_loop {σ : Type} (mk : Nat → σ) (hay needle : Bytes) (eq : UInt8 → UInt8 → Bool)
    {cond : σ → Option Bool} {body incr rest : Stmt σ}
    (hc : ∀ p, cond (mk p) = some (decide (p < needle.length) && decide (p < hay.length)))
    (hb : ∀ p x y t u, hay.drop p = x :: t → needle.drop p = y :: u →
      body (mk p) = if eq x y then some (.next (mk (p + 1))) else some (.ret (mk p) 0))
    (hi : ∀ p, incr (mk p) = some (.next (mk p)))
    (hr : ∀ p, rest (mk p) = if (p : Int) = needle.length then some (.ret (mk p) 1) else some (.ret (mk p) 0)) :
    ∀ (n p : Nat), p ≤ needle.length → min hay.length needle.length - p < n →
      retVal (seqS (whileF cond body incr n) rest (mk p)) = some (b2i (Bstr.prefixMatch eq (hay.drop p) (needle.drop p))) := by
  refine loop_eq retVal mk (· ≤ needle.length) (min hay.length needle.length - ·)
    (fun p => some (b2i (Bstr.prefixMatch eq (hay.drop p) (needle.drop p)))) ?_
  intro p hp again ih
  unfold turn
  rw [hc]
  cases hy : needle.drop p with
  | nil =>
    have l2 := le_of_drop_nil hy
    rw [decide_eq_false (Nat.not_lt.2 l2), Bool.false_and, Option.bind_some, if_neg Bool.false_ne_true, hr, if_pos (by omega)]
    simp [Bstr.prefixMatch, b2i_true]
  | cons y u =>
    have l2 := lt_of_drop_cons hy
    cases hx : hay.drop p with
    | nil =>
      have l1 := le_of_drop_nil hx
      rw [decide_eq_false (Nat.not_lt.2 l1), Bool.and_false, Option.bind_some, if_neg Bool.false_ne_true, hr, if_neg (by omega)]
      rfl
    | cons x t =>
      have l1 := lt_of_drop_cons hx
      rw [decide_eq_true l1, decide_eq_true l2, Bool.and_self, Option.bind_some, if_pos rfl, hb p x y t u hx hy]
      by_cases hxy : eq x y = true
      · rw [if_pos hxy, go_next, hi, go_next, ih (p + 1) l2 (Nat.sub_lt_sub_left (Nat.lt_min.2 ⟨l1, l2⟩) (Nat.lt_succ_self p)),
          drop_succ_of_drop hx, drop_succ_of_drop hy]
        simp [Bstr.prefixMatch, hxy]
      · rw [if_neg hxy, go_ret]
        simp [Bstr.prefixMatch, hxy, b2i_false]

abbrev BW (hay needle : Bytes) (p : Nat) : St_bstr_begins_with_mem :=
  { haystack_len := hay.length, len := needle.length, hlen := hay.length, pos := p, haystack_mem := memOf hay }

theorem bstr_begins_with_mem_eq (hay needle : Bytes) (h1 : hay.length < 9223372036854775808)
    (_h2 : needle.length < 9223372036854775808) (fuel : Nat) (hf : min hay.length needle.length < fuel) :
    (bstr_begins_with_mem fuel needle (memOf hay) hay.length needle.length).map (·.1)
      = some (b2i (Bstr.beginsWithMem hay needle)) := by
  unfold bstr_begins_with_mem
  rw [run_val]
  exact begins_loop (BW hay needle) hay needle Bstr.eqExact (cond := bstr_begins_with_mem_cond1 fuel needle)
    (body := bstr_begins_with_mem_body1 fuel needle) (incr := bstr_begins_with_mem_incr1 fuel needle)
    (rest := bstr_begins_with_mem_rest1 fuel needle)
    (fun p => by simp [bstr_begins_with_mem_cond1])
    (fun p x y t u hx hy => by
      have hp := lt_of_drop_cons hx
      by_cases hxy : x = y <;>
        simp [bstr_begins_with_mem_body1, retS, assignS, rdM_of_drop hx, rd_of_drop hy, toNat_int_inj,
          u64_succ p (by omega), Bstr.eqExact, hxy])
    (fun _ => rfl)
    (fun p => by simp [bstr_begins_with_mem_rest1, iteS_bind, retS])
    fuel 0 (Nat.zero_le _) hf

abbrev BN (hay needle : Bytes) (p : Nat) : St_bstr_begins_with_mem_nocase :=
  { haystack_len := hay.length, len := needle.length, hlen := hay.length, pos := p, haystack_mem := memOf hay }

theorem bstr_begins_with_mem_nocase_eq (hay needle : Bytes) (h1 : hay.length < 9223372036854775808)
    (_h2 : needle.length < 9223372036854775808) (fuel : Nat) (hf : min hay.length needle.length < fuel) :
    (bstr_begins_with_mem_nocase fuel needle (memOf hay) hay.length needle.length).map (·.1)
      = some (b2i (Bstr.beginsWithMemNocase hay needle)) := by
  unfold bstr_begins_with_mem_nocase
  rw [run_val]
  exact begins_loop (BN hay needle) hay needle Bstr.eqLower (cond := bstr_begins_with_mem_nocase_cond1 fuel needle)
    (body := bstr_begins_with_mem_nocase_body1 fuel needle) (incr := bstr_begins_with_mem_nocase_incr1 fuel needle)
    (rest := bstr_begins_with_mem_nocase_rest1 fuel needle)
    (fun p => by simp [bstr_begins_with_mem_nocase_cond1])
    (fun p x y t u hx hy => by
      have hp := lt_of_drop_cons hx
      by_cases hxy : cTolower x = cTolower y <;>
        simp [bstr_begins_with_mem_nocase_body1, retS, assignS, rdM_of_drop hx, rd_of_drop hy, tolowerI_toNat,
          toNat_int_inj, u64_succ p (by omega), Bstr.eqLower, hxy])
    (fun _ => rfl)
    (fun p => by simp [bstr_begins_with_mem_nocase_rest1, iteS_bind, retS])
    fuel 0 (Nat.zero_le _) hf

theorem memOf_append (a b : Bytes) : memOf (a ++ b) = memOf a ++ memOf b := Htp.CFuns.memOf_append a b

theorem rdM_mid (pre : Bytes) (x : UInt8) (t : Bytes) :
    rdM (memOf (pre ++ x :: t)) (pre.length : Int) = some (x.toNat : Int) := by
  rw [rdM_memOf_lt _ _ (by simp)]; simp

theorem wrM_mid (pre : Bytes) (x y : UInt8) (t : Bytes) :
    wrM (memOf (pre ++ x :: t)) (pre.length : Int) (y.toNat : Int) = some (memOf ((pre ++ [y]) ++ t)) := by
  rw [wrM_nat _ _ _ (by simp [memOf_length])]
  simp [memOf]

/-- loop state: `L` is the (fixed) length, `pre` the part already converted, `a` the rest -/
abbrev TL (L : Nat) (pre a : Bytes) : St_bstr_to_lowercase :=
  { b_len := L, len := L, i := pre.length, b_mem := memOf (pre ++ a) }

theorem to_lowercase_loop (F : Nat) (L : Nat) (hL : L < 9223372036854775808) (n : Nat) (pre a : Bytes)
    (hl : pre.length + a.length = L) (hn : a.length < n) :
    seqS (whileF (bstr_to_lowercase_cond1 F) (bstr_to_lowercase_body1 F) (bstr_to_lowercase_incr1 F) n)
        (bstr_to_lowercase_rest1 F) (TL L pre a)
      = some (.ret (TL L (pre ++ a.map cTolower) []) 1) := by
  refine loop_eq id (fun q : Bytes × Bytes => TL L q.1 q.2) (fun q => q.1.length + q.2.length = L) (·.2.length)
    (fun q => some (.ret (TL L (q.1 ++ q.2.map cTolower) []) 1)) ?_ n (pre, a) hl hn
  intro ⟨pre, a⟩ hl again ih
  dsimp only [id] at hl ih ⊢
  cases a with
  | nil =>
    have hpe : ¬ ((pre.length : Int) < L) := by simp at hl; omega
    simp [turn, bstr_to_lowercase_cond1, bstr_to_lowercase_rest1, retS, hpe]
  | cons x t =>
    simp only [List.length_cons] at hl
    have c1 : ((pre.length : Int) < L) := by omega
    have hu : u64 ((pre.length : Int) + 1) = (((pre ++ [cTolower x]).length : Nat) : Int) := by
      rw [List.length_append]; exact u64_succ _ (by omega)
    have hw : u8 (tolowerI (x.toNat : Int)) = ((cTolower x).toNat : Int) := by rw [tolowerI_toNat, byte_u8]
    have := ih (pre ++ [cTolower x], t)
      (by rw [List.length_append, List.length_singleton, Nat.add_assoc, Nat.add_comm 1]; exact hl) (Nat.lt_succ_self _)
    simp only [turn, bstr_to_lowercase_cond1, bstr_to_lowercase_body1, bstr_to_lowercase_incr1, TL, c1, decide_true, Option.bind_some,
      if_true, go_seqS, go_assignS, go_skipS, rdM_mid, hw, wrM_mid, hu]
    simpa [TL] using this

/-- the `1` returned stands for the (non-NULL) argument -/
theorem bstr_to_lowercase_eq (d : Bytes) (h1 : d.length < 9223372036854775808) (fuel : Nat) (hf : d.length < fuel) :
    bstr_to_lowercase fuel (memOf d) d.length
      = some (1, { b_len := d.length, len := d.length, i := d.length, b_mem := memOf (Bstr.toLowercase d) }) := by
  refine (congrArg outcome (to_lowercase_loop fuel d.length h1 fuel [] d (by simp) hf)).trans ?_
  simp [TL, Bstr.toLowercase]

end Htp.CFuns.BstrC

#print axioms Htp.CFuns.BstrC.htp_connp_is_line_folded_eq
#print axioms Htp.CFuns.BstrC.bstr_char_at_eq
#print axioms Htp.CFuns.BstrC.bstr_char_at_end_eq
#print axioms Htp.CFuns.BstrC.bstr_chop_eq
#print axioms Htp.CFuns.BstrC.bstr_chr_eq
#print axioms Htp.CFuns.BstrC.bstr_rchr_eq
#print axioms Htp.CFuns.BstrC.bstr_begins_with_mem_eq
#print axioms Htp.CFuns.BstrC.bstr_begins_with_mem_nocase_eq
#print axioms Htp.CFuns.BstrC.bstr_to_lowercase_eq
