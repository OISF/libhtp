/- The walk of Lemmas/ConnSweep.lean continued: the response side, then a whole data call of either direction (the parts of a call, the six
   calls of the embedder and whole histories are in Lemmas/ConnSweepHist.lean). The transaction-level functions of the response side are
   instances of the general walk of Lemmas/TxWalk.lean (`keeps_fnO`); RES_IDLE (it takes the next transaction or creates one, and moves the
   index: `Within`) is walked here; the other response state functions, the parts of a pass and the driver loop are
   instances of the general walk of Lemmas/StateWalkOut.lean (`resRel_keeps` below RES_IDLE, `resRelS_within` from RES_IDLE up). A data call
   is `Keeps` / `Within` from the state with the byte counter already advanced by what the call counts: that is "one call, exactly" for the
   counters, and `Calls` for the rest. -/
import HtpModel.Lemmas.ConnSweep
import HtpModel.Lemmas.StateWalkOut
import HtpModel.Lemmas.Calls
namespace Htp.Conn
open Htp Htp.Gen

variable {m : Nat}

theorem Keeps.within_next {a b b' : Conn} (h : Keeps m a b) (hl : IdxInv a → b.outNextTxIndex + 1 ≤ (b.txs.length : Int))
    (hb : watched b' = watched { b with outNextTxIndex := b.outNextTxIndex + 1 }) (hi : b'.inn.tx = b.inn.tx := by rfl)
    (ho : b'.out.tx = b.out.tx := by rfl) : Within m a b' := by
  have k : Within m a { b with outNextTxIndex := b.outNextTxIndex + 1 } :=
    ⟨h.ext, h.ctr, ⟨fun hv => hl hv, h.idx.pip⟩, fun hm => ⟨(h.len hm).le⟩, h.ref.trans (keepRef_of_same ⟨rfl, rfl, rfl, rfl⟩),
      h.tx.trans (.frame rfl rfl)⟩
  exact k.trans (.same hb hi ho)

theorem keeps_fnO : ResFnRel (fun _ => True) (Keeps m) where
  toCbRel := keeps_cb
  aux := .of_erase resCore
  toState _ _ _ := .same rfl
  clearOut c := keeps_clearOut c _ rfl
  bodyLeft _ _ _ := .same rfl

theorem keeps_txStateResponseStart (uid : Nat) (c : Conn) (he : c.out.tx = some uid) : Keeps m c (txStateResponseStart uid c).1 :=
  walk_txStateResponseStart keeps_fnO uid c he

/-- the unmatched-response path of RES_IDLE creates a transaction and points `out_tx` at it: the uid is the one `txCreate` has just
    stored in `in_tx`, and by the invariant that one is in the list; the index moves past the slot just appended -/
theorem within_resIdleUnmatched (cfg : Cfg) (c : Conn) : Within cfg.maxTx c (resIdleUnmatched cfg c).1 := by
  unfold resIdleUnmatched
  have k := keeps_txCreate cfg c
  rcases hx : txCreate cfg c with ⟨c2, u⟩
  rw [hx] at k
  simp only at k ⊢
  cases u with
  | none => exact (k.trans (keeps_clearOut _ _ rfl)).within
  | some uid =>
    simp only
    have k1 : Keeps cfg.maxTx c2 (({ c2 with out := { c2.out with tx := some uid } } : Conn).modTx uid
        (fun t => { t with uriNorm := some { path := some REQUEST_URI_NOT_SEEN }, uri := some REQUEST_URI_NOT_SEEN })) :=
      (keeps_setOut c2 _ uid rfl (fun h => live_of_inn h (txCreate_some hx).1)).trans (keeps_modTx uid _ _)
    refine Within.trans ((k.trans k1).within_next (fun hi => ?_) ?_) (Keeps.within (keeps_txStateResponseStart uid _ ?_))
    · have := (txCreate_some hx).2.2
      have := k.idx.idx
      unfold IdxInv at hi
      rw [modTx_length]
      show c2.outNextTxIndex + 1 ≤ (c2.txs.length : Int)
      omega
    · rfl
    · rfl

/-- RES_IDLE points `out_tx` at the transaction stored in slot `out_next_tx_index` - a transaction of the list - and moves the index
    past it, or goes the unmatched-response way -/
theorem within_resIdle (cfg : Cfg) (c : Conn) : Within cfg.maxTx c (resIdle cfg c).1 := by
  unfold resIdle
  split
  · exact .refl c
  · simp only []
    split
    · have hk : Keeps cfg.maxTx c (if c.inState == .finalize then (match c.inn.tx with | some uid => (txStateRequestComplete cfg uid c).1 | none => c) else c) := by
        refine ite_cases (fun _ => ?_) fun _ => ?_
        · split
          · exact keeps_txStateRequestComplete ..
          · exact .refl c
        · exact .refl c
      exact hk.within.trans (within_resIdleUnmatched cfg _)
    · rename_i t hslot
      have hlt : c.outNextTxIndex + 1 ≤ (c.txs.length : Int) := by
        split at hslot
        · cases hslot
        · rename_i hn
          by_cases hl : c.outNextTxIndex.toNat < c.txs.length
          · omega
          · rw [List.getElem?_eq_none (Nat.le_of_not_lt hl)] at hslot
            simp at hslot
      have k0 : Keeps cfg.maxTx c { c with out := { c.out with tx := some t.uid, contentLength := -1, bodyDataLeft := -1 } } :=
        keeps_setOut c _ t.uid rfl (fun _ => ⟨t, slot_mem hslot, rfl⟩)
      refine Within.trans (k0.within_next (fun _ => hlt) ?_) (Keeps.within (keeps_txStateResponseStart t.uid _ ?_))
      · rfl
      · rfl

theorem resRel_keeps (cfg : Cfg) : ResRel cfg False (fun _ => True) (Keeps m) where
  toResFnRel := keeps_fnO
  same := .of_erase resView
  cursor h := keeps_out _ _ (congrArg Dir.tx h.frame :)
  unread {c d} e _ _ := keeps_out c d (congrArg Dir.tx e :)

/-- RES_IDLE moves the index: from there up the relation is `Within`, at the `max_tx` of the configuration (RES_IDLE creates a
    transaction for a response without request) -/
theorem resRelS_within (cfg : Cfg) : ResRelS cfg False (fun _ => True) (Within cfg.maxTx) where
  toResRel := (resRel_keeps cfg).mono Keeps.within Within.trans
  wake c _ _ _ := (keeps_inn c _).within
  inFinalize _ := .same rfl
  status c _ := (keeps_out c _).within
  resIdle := within_resIdle cfg

theorem within_resDriverLoop (cfg : Cfg) (gap : Bool) (fuel : Nat) (c : Conn) : Within cfg.maxTx c (resDriverLoop cfg gap fuel c).1 :=
  walk_resDriverLoop cfg (resRelS_within cfg) id gap fuel c

theorem keeps_reqWakeOther (c : Conn) : Keeps m c (reqWakeOther c) := by
  rw [reqWakeOther_eq]
  exact .same rfl

theorem reqCounted_eq_false {c : Conn} {len : Nat} (h : c.inn.status = STREAM_STOP ∨ c.inn.status = STREAM_ERROR ∨
    (c.inn.tx = none ∧ c.inState ≠ .idle) ∨ (len = 0 ∧ c.inn.status ≠ STREAM_CLOSED)) : reqCounted c len = false := by
  rcases h with h | h | h | h <;> simp [reqCounted, h]

theorem reqCounted_eq_true {c : Conn} {len : Nat} (h1 : c.inn.status ≠ STREAM_STOP) (h2 : c.inn.status ≠ STREAM_ERROR)
    (h : ¬ (c.inn.tx = none ∧ c.inState ≠ .idle) ∧ ¬ (len = 0 ∧ c.inn.status ≠ STREAM_CLOSED)) : reqCounted c len = true := by
  have e3 : (c.inn.tx.isNone && c.inState != .idle) = false :=
    Bool.eq_false_iff.mpr fun x => h.1 (by simpa only [Bool.and_eq_true, Option.isNone_iff_eq_none, bne_iff_ne] using x)
  have e4 : (len == 0 && c.inn.status != STREAM_CLOSED) = false :=
    Bool.eq_false_iff.mpr fun x => h.2 (by simpa only [Bool.and_eq_true, beq_iff_eq, bne_iff_ne] using x)
  simp [reqCounted, h1, h2, e3, e4]

theorem keeps_reqDataCore (cfg : Cfg) (data : Option Bytes) (len : Nat) (c : Conn) :
    Keeps cfg.maxTx { c with inDataCounter := c.inDataCounter + (if reqCounted c len = true then len else 0) }
      (reqDataCore cfg data len c).1 ∧
    (Accepted (reqDataCore cfg data len c).2 → reqCounted c len = true) := by
  generalize hk : (if reqCounted c len = true then len else 0) = k
  have early : ∀ {c' : Conn} {s : Nat}, reqCounted c len = false → watched c' = watched c → c'.inn.tx = c.inn.tx → c'.out.tx = c.out.tx →
      ¬ Accepted s → Keeps cfg.maxTx { c with inDataCounter := c.inDataCounter + k } c' ∧ (Accepted s → reqCounted c len = true) := by
    intro c' s e hw hi ho hn
    rw [e] at hk; subst hk
    exact ⟨.same hw hi ho, fun a => absurd a hn⟩
  have past : reqCounted c len = true → k = len := fun e => by rw [← hk, e]; rfl
  refine reqDataCore_cases (P := fun r => Keeps cfg.maxTx { c with inDataCounter := c.inDataCounter + k } r.1 ∧
      (Accepted r.2 → reqCounted c len = true)) cfg data len c
    (fun h => early (reqCounted_eq_false (.inl h)) rfl rfl rfl not_accepted_stop)
    (fun h => early (reqCounted_eq_false (.inr (.inl h))) rfl rfl rfl not_accepted_error)
    (fun h1 h2 => early (reqCounted_eq_false (.inr (.inr (.inl ⟨h1, h2⟩)))) rfl rfl rfl not_accepted_error)
    (fun h1 h2 => early (reqCounted_eq_false (.inr (.inr (.inr ⟨h1, h2⟩)))) rfl rfl rfl not_accepted_closed)
    (fun h g => ?_) (fun h1 h2 _ g => ?_)
  · have e := reqCounted_eq_true (by rw [h]; decide) (by rw [h]; decide) g
    rw [past e]
    exact ⟨.same rfl, fun _ => e⟩
  · have e := reqCounted_eq_true h1 h2 g
    rw [past e]
    exact ⟨Keeps.trans (b := reqStoreChunk data len c) (.same rfl) ((keeps_reqWakeOther _).trans (keeps_reqDriverLoop cfg _ _ _)),
      fun _ => e⟩

theorem keeps_reqData (cfg : Cfg) (data : Option Bytes) (len : Nat) (c : Conn) :
    Keeps cfg.maxTx { c with inDataCounter := c.inDataCounter + (if reqCounted c len = true then len else 0) }
      (reqData cfg data len c).1 := by
  unfold reqData
  exact (keeps_reqDataCore cfg data len c).1.trans (.same rfl)

theorem resCounted_eq_false {c : Conn} {len : Nat} (h : c.out.status = STREAM_STOP ∨ c.out.status = STREAM_ERROR ∨
    (c.out.tx = none ∧ c.outState ≠ .idle) ∨ (len = 0 ∧ c.out.status ≠ STREAM_CLOSED)) : resCounted c len = false := by
  rcases h with h | h | h | h <;> simp [resCounted, h]

theorem resCounted_eq_true {c : Conn} {len : Nat} (h1 : c.out.status ≠ STREAM_STOP) (h2 : c.out.status ≠ STREAM_ERROR)
    (h : ¬ (c.out.tx = none ∧ c.outState ≠ .idle) ∧ ¬ (len = 0 ∧ c.out.status ≠ STREAM_CLOSED)) : resCounted c len = true := by
  have e3 : (c.out.tx.isNone && c.outState != .idle) = false :=
    Bool.eq_false_iff.mpr fun x => h.1 (by simpa only [Bool.and_eq_true, Option.isNone_iff_eq_none, bne_iff_ne] using x)
  have e4 : (len == 0 && c.out.status != STREAM_CLOSED) = false :=
    Bool.eq_false_iff.mpr fun x => h.2 (by simpa only [Bool.and_eq_true, beq_iff_eq, bne_iff_ne] using x)
  simp [resCounted, h1, h2, e3, e4]

theorem within_resDataCore (cfg : Cfg) (data : Option Bytes) (len : Nat) (c : Conn) :
    Within cfg.maxTx { c with outDataCounter := c.outDataCounter + (if resCounted c len = true then len else 0) }
      (resDataCore cfg data len c).1 ∧
    (Accepted (resDataCore cfg data len c).2 → resCounted c len = true) := by
  generalize hk : (if resCounted c len = true then len else 0) = k
  have early : ∀ {c' : Conn} {s : Nat}, resCounted c len = false → watched c' = watched c → c'.inn.tx = c.inn.tx → c'.out.tx = c.out.tx →
      ¬ Accepted s → Within cfg.maxTx { c with outDataCounter := c.outDataCounter + k } c' ∧ (Accepted s → resCounted c len = true) := by
    intro c' s e hw hi ho hn
    rw [e] at hk; subst hk
    exact ⟨.same hw hi ho, fun a => absurd a hn⟩
  have past : resCounted c len = true → k = len := fun e => by rw [← hk, e]; rfl
  refine resDataCore_cases (P := fun r => Within cfg.maxTx { c with outDataCounter := c.outDataCounter + k } r.1 ∧
      (Accepted r.2 → resCounted c len = true)) cfg data len c
    (fun h => early (resCounted_eq_false (.inl h)) rfl rfl rfl not_accepted_stop)
    (fun h => early (resCounted_eq_false (.inr (.inl h))) rfl rfl rfl not_accepted_error)
    (fun h1 h2 => early (resCounted_eq_false (.inr (.inr (.inl ⟨h1, h2⟩)))) rfl rfl rfl not_accepted_error)
    (fun h1 h2 => early (resCounted_eq_false (.inr (.inr (.inr ⟨h1, h2⟩)))) rfl rfl rfl not_accepted_closed)
    (fun h g => ?_) (fun h1 h2 _ g => ?_)
  · have e := resCounted_eq_true (by rw [h]; decide) (by rw [h]; decide) g
    rw [past e]
    exact ⟨.same rfl, fun _ => e⟩
  · have e := resCounted_eq_true h1 h2 g
    rw [past e]
    exact ⟨Within.trans (b := resStoreChunk data len c) (.same rfl) (within_resDriverLoop cfg _ _ _), fun _ => e⟩

theorem within_resData (cfg : Cfg) (data : Option Bytes) (len : Nat) (c : Conn) :
    Within cfg.maxTx { c with outDataCounter := c.outDataCounter + (if resCounted c len = true then len else 0) }
      (resData cfg data len c).1 := by
  unfold resData
  exact (within_resDataCore cfg data len c).1.trans (.same rfl)

theorem calls_reqData (cfg : Cfg) (data : Option Bytes) (len : Nat) (c : Conn) : Calls cfg.maxTx c (reqData cfg data len c).1 :=
  (keeps_reqData cfg data len c).within.calls.from rfl

theorem calls_resData (cfg : Cfg) (data : Option Bytes) (len : Nat) (c : Conn) : Calls cfg.maxTx c (resData cfg data len c).1 :=
  (within_resData cfg data len c).calls.from rfl

theorem keeps_connOpen (c : Conn) : Keeps m c (connOpen c) := by
  unfold connOpen
  split <;> exact .same rfl

/-- htp_connp_tx_freed drops leading empty slots - no transaction leaves the list - and takes the index down by one for each -/
theorem within_txFreedLoop (fuel : Nat) (c : Conn) (r : Nat) : Within m c (txFreedLoop fuel c r).1 := by
  refine txFreedLoop_rel .refl .trans (fun c rest heq => ?_) fuel c r
  have hlen : c.txs.length = rest.length + 1 := by rw [heq]; rfl
  refine ⟨⟨[], rfl, rfl⟩, ⟨rfl, rfl⟩, ⟨fun hi => ?_, id⟩, fun _ => ⟨?_⟩, keepRef_dropNone c rest _ heq,
    .sub (fun o ho => by rw [heq]; exact List.mem_cons_of_mem _ ho) rfl⟩
  · unfold IdxInv at hi ⊢
    show c.outNextTxIndex - 1 ≤ (rest.length : Int)
    omega
  · show rest.length ≤ max c.txs.length _
    omega

end Htp.Conn
