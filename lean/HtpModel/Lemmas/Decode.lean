/- The in-place decoders and the dot-segment remover: lengths (the write position is at or behind the read position, so no stage
   produces more bytes than it was given: C12, C01), the x2c tables, and `FSRel` for the URL decoder. -/
import HtpModel.Util.Decode
import HtpModel.Lemmas.Flags
namespace Htp.Decode
open Htp Htp.Gen

theorem emitPath_len (cfg : DecoderCfg) (c : UInt8) (s : St) : (emitPath cfg c s).out.length ≤ s.out.length + 1 := by
  unfold emitPath
  extract_lets s' c1 c2
  have hs : s'.out = s.out := by unfold s'; split <;> rfl
  rw [← hs]
  -- every branch conses one byte or leaves `out` alone
  repeat' split
  all_goals simp only [List.length_cons, Nat.le_refl, Nat.le_add_right]

theorem pathStep_len (cfg : DecoderCfg) (c : UInt8) (tl : Bytes) (s : St) :
    (pathStep cfg c tl s).1.out.length ≤ s.out.length + 1 := by
  unfold pathStep applyPath
  split
  · exact emitPath_len cfg _ _
  · exact Nat.le_add_right _ _
  · exact Nat.le_add_right _ _

theorem pathLoop_len (cfg : DecoderCfg) (input : Bytes) (skip : Nat) (s : St) :
    (pathLoop cfg input skip s).out.length ≤ s.out.length + input.length := by
  induction input generalizing skip s with
  | nil => exact Nat.le_refl _
  | cons c tl ih =>
    unfold pathLoop
    split
    · exact Nat.le_add_right _ _
    · cases skip with
      | succ k =>
        have := ih k s
        simp only [List.length_cons]
        omega
      | zero =>
        have h1 := pathStep_len cfg c tl s
        have h2 := ih (pathStep cfg c tl s).2 (pathStep cfg c tl s).1
        simp only [List.length_cons]
        omega

theorem decodePath_len (cfg : DecoderCfg) (input : Bytes) (flags : Nat) (status : Int) :
    (decodePath cfg input flags status).1.length ≤ input.length := by
  unfold decodePath
  simpa only [List.length_reverse, List.length_nil, Nat.zero_add] using pathLoop_len cfg input 0 { flags := flags, status := status }

theorem urlStep_len (cfg : DecoderCfg) (c : UInt8) (tl : Bytes) (s : St) :
    (urlStep cfg c tl s).1.out.length ≤ s.out.length + 1 := by
  unfold urlStep applyUrl
  split
  · exact Nat.le_refl _
  · exact Nat.le_add_right _ _
  · exact Nat.le_add_right _ _

theorem urlLoop_len (cfg : DecoderCfg) (input : Bytes) (skip : Nat) (s : St) :
    (urlLoop cfg input skip s).out.length ≤ s.out.length + input.length := by
  induction input generalizing skip s with
  | nil => exact Nat.le_refl _
  | cons c tl ih =>
    unfold urlLoop
    split
    · exact Nat.le_add_right _ _
    · cases skip with
      | succ k =>
        have := ih k s
        simp only [List.length_cons]
        omega
      | zero =>
        have h1 := urlStep_len cfg c tl s
        have h2 := ih (urlStep cfg c tl s).2 (urlStep cfg c tl s).1
        simp only [List.length_cons]
        omega

theorem urldecodeEx_len (cfg : DecoderCfg) (input : Bytes) (flags : Nat) (status : Int) :
    (urldecodeEx cfg input flags status).1.length ≤ input.length := by
  unfold urldecodeEx
  simpa only [List.length_reverse, List.length_nil, Nat.zero_add] using urlLoop_len cfg input 0 { flags := flags, status := status }

/-- every switch of the UTF-8 converter: output plus pending sequence bytes grow by at most one, and not at all when the byte is
    not consumed (a sequence broken off by this byte) -/
theorem utf8DecStep_le (cfg : DecoderCfg) (u : U8) (b : UInt8) :
    (utf8DecStep cfg u b).1.out.length + (utf8DecStep cfg u b).1.counter + (if (utf8DecStep cfg u b).2 then 0 else 1)
      ≤ u.out.length + u.counter + 1 := by
  unfold utf8DecStep
  generalize utf8Dfa u.state u.codep b = r
  dsimp only
  split
  · split
    · simp only [List.length_cons, if_true]; omega
    · simp only [List.length_cons, if_true]; omega
  · split
    · simp only [List.length_cons, decide_eq_true_eq]; split <;> omega
    · simp only [if_true]; omega

theorem utf8DecLoop_len (cfg : DecoderCfg) (l : Bytes) (u : U8) :
    (utf8DecLoop cfg l u).out.length + (utf8DecLoop cfg l u).counter ≤ u.out.length + u.counter + l.length := by
  induction l generalizing u with
  | nil => exact Nat.le_refl _
  | cons b tl ih =>
    have h1 := utf8DecStep_le cfg u b
    unfold utf8DecLoop
    dsimp only
    split
    · rename_i hc
      simp only [hc, if_true] at h1
      have := ih (utf8DecStep cfg u b).1
      simp only [List.length_cons]
      omega
    · rename_i hc
      simp only [hc, Bool.false_eq_true, if_false] at h1
      have h2 := utf8DecStep_le cfg (utf8DecStep cfg u b).1 b
      have := ih (utf8DecStep cfg (utf8DecStep cfg u b).1 b).1
      simp only [List.length_cons]
      omega

theorem utf8DecodePath_len (cfg : DecoderCfg) (input : Bytes) (flags : Nat) (status : Int) :
    (utf8DecodePath cfg input flags status).1.length ≤ input.length := by
  unfold utf8DecodePath
  have := utf8DecLoop_len cfg input { flags := flags, status := status }
  simp only [List.length_reverse, List.length_nil] at this ⊢
  omega

theorem dropLastSegment_len (out : Bytes) : (dropLastSegment out).length ≤ out.length := by
  have h := (List.dropWhile_suffix (l := out) (· != 0x2f)).length_le
  unfold dropLastSegment
  split
  · exact Nat.zero_le _
  · rename_i hd
    rw [hd, List.length_cons] at h
    omega

theorem copySegment_len (rest out : Bytes) :
    (copySegment rest out).1.length + (copySegment rest out).2.length = rest.length + out.length := by
  induction rest generalizing out with
  | nil => rfl
  | cons c t ih =>
    unfold copySegment
    split
    · rfl
    · rw [ih, List.length_cons, List.length_cons]; omega

/-- what one application of the rules leaves: output, unread input and a pending character never add up to more than before -/
def normMeasure (r : Bytes × Option (Bytes × Option UInt8)) : Nat :=
  r.1.length + (match r.2 with | none => 0 | some (rest, c) => rest.length + (if c.isSome then 1 else 0))

theorem normRules_measure (c : UInt8) (rest out : Bytes) : normMeasure (normRules c rest out) ≤ out.length + rest.length + 1 := by
  have hE : normMeasure (match copySegment rest (c :: out) with | (rest', out') => (out', some (rest', none)))
      ≤ out.length + rest.length + 1 := by
    have := copySegment_len rest (c :: out)
    generalize copySegment rest (c :: out) = r at this ⊢
    simp only [normMeasure, List.length_cons, Option.isSome, Bool.false_eq_true, ↓reduceIte] at this ⊢
    omega
  have hD := dropLastSegment_len out
  unfold normRules
  dsimp only
  split
  · -- '.': rules A, A, D, D, else E
    split
    iterate 4 (simp only [normMeasure, List.length_cons, Option.isSome, Bool.false_eq_true, ↓reduceIte]; omega)
    exact hE
  · split
    · -- '/': rules B, B at the end, C, C at the end, else E
      split
      iterate 4 (simp only [normMeasure, List.length_cons, Option.isSome, ↓reduceIte]; omega)
      exact hE
    · exact hE

/-- what the loop does with the result of one rule application -/
def normNext (fuel : Nat) : Bytes × Option (Bytes × Option UInt8) → Bytes
  | (out', none) => out'
  | (out', some (rest'', c')) => normLoop fuel rest'' out' c'

theorem normLoop_succ_cons (fuel : Nat) (r : UInt8) (rest' out : Bytes) (c : Option UInt8) :
    normLoop (fuel + 1) (r :: rest') out c =
      normNext fuel (normRules (c.getD r) (if c.isSome then r :: rest' else rest') out) := by
  cases c <;> rfl

theorem normLoop_len (fuel : Nat) (rest out : Bytes) (c : Option UInt8) :
    (normLoop fuel rest out c).length ≤ out.length + rest.length + (if c.isSome then 1 else 0) := by
  induction fuel generalizing rest out c with
  | zero => show out.length ≤ _; omega
  | succ k ih =>
    cases rest with
    | nil => show out.length ≤ _; omega
    | cons r rest' =>
      rw [normLoop_succ_cons]
      have hm := normRules_measure (c.getD r) (if c.isSome then r :: rest' else rest') out
      have hl : (if c.isSome then r :: rest' else rest').length + 1 = (r :: rest').length + (if c.isSome then 1 else 0) := by
        cases c <;> rfl
      generalize normRules _ _ _ = res at hm ⊢
      obtain ⟨out', _ | ⟨rest'', c'⟩⟩ := res
      · simp only [normNext, normMeasure] at hm ⊢
        omega
      · have := ih rest'' out' c'
        simp only [normNext, normMeasure] at hm ⊢
        omega

theorem normalizePath_len (input : Bytes) : (normalizePath input).length ≤ input.length := by
  unfold normalizePath
  simpa using normLoop_len (2 * input.length + 2) input [] none

theorem pipeline_len (cfg : DecoderCfg) (path : Bytes) (flags : Nat) (status : Int) :
    (pipeline cfg path flags status).1.length ≤ path.length := by
  have h1 := decodePath_len cfg path flags status
  unfold pipeline
  dsimp only
  split
  · exact Nat.le_trans (normalizePath_len _) (Nat.le_trans (utf8DecodePath_len ..) h1)
  · exact Nat.le_trans (normalizePath_len _) h1

/-- the two x2c tables are the hex-digit arithmetic of `x2c` (htp_util.c), for all 256 bytes -/
theorem x2c_table : ∀ b : UInt8,
    x2cLo b = (if b ≥ 0x41 then ((b &&& 0xdf) - 0x41) + 10 else b - 0x30) ∧
    x2cHi b = (if b ≥ 0x41 then ((b &&& 0xdf) - 0x41) + 10 else b - 0x30) * 16 := by
  apply forall_uint8_of_lt
  decide +kernel

/-! `urlDecide` never branches on the flags or the status it threads: it sets flags, and puts the status through `unwanted u` (Util/Decode.lean)
    or leaves it. So two runs from states related by any relation that survives those two writes take the same decisions and stay related.
    The trivial relation gives: the decoded bytes do not depend on flags / status (`urldecodeEx_out`, below); `fun s _ => P s.flags`: what
    `setFlag` keeps is kept (Lemmas/FlagsMono.lean). (`rel_ite`: Lemmas/Flags.lean.) -/

/-- a relation between two runs that survives what the decoders do to flags and status: set the same flag, put the old status through the
    same function (`unwanted u`, or `id`; give `g` explicitly, unification does not find `id`) -/
structure FSRel (R : FS → FS → Prop) : Prop where
  set : ∀ {s s' : FS} (f : Nat) (g : Int → Int), R s s' → R ⟨setFlag s.flags f, g s.status⟩ ⟨setFlag s'.flags f, g s'.status⟩
  keep : ∀ {s s' : FS} (g : Int → Int), R s s' → R ⟨s.flags, g s.status⟩ ⟨s'.flags, g s'.status⟩

def DRel (R : FS → FS → Prop) (d d' : FS × Act) : Prop := R d.1 d'.1 ∧ d.2 = d'.2

variable {R : FS → FS → Prop} (hR : FSRel R)
include hR

theorem pctAct_rel (cfg : DecoderCfg) (c : UInt8) (k : Nat) {s s' : FS} (h : R s s') : DRel R (pctAct cfg c k s) (pctAct cfg c k s') :=
  rel_ite (rel_ite ⟨hR.set _ (unwanted cfg.nulEncodedUnwanted) h, rfl⟩ ⟨hR.set _ (unwanted cfg.nulEncodedUnwanted) h, rfl⟩) ⟨h, rfl⟩

theorem invalidEncU_rel (cfg : DecoderCfg) {s s' : FS} (h : R s s') : R (invalidEncU cfg s) (invalidEncU cfg s') :=
  hR.set _ (unwanted cfg.urlEncodingInvalidUnwanted) h

theorem decodeUParams_rel (cfg : DecoderCfg) (h1 h2 h3 h4 : UInt8) {s s' : FS} (h : R s s') :
    (decodeUParams cfg h1 h2 h3 h4 s).1 = (decodeUParams cfg h1 h2 h3 h4 s').1 ∧
      R (decodeUParams cfg h1 h2 h3 h4 s).2 (decodeUParams cfg h1 h2 h3 h4 s').2 := by
  unfold decodeUParams
  dsimp only
  exact rel_ite (Q := fun x x' : UInt8 × FS => x.1 = x'.1 ∧ R x.2 x'.2) ⟨rfl, hR.set _ id h⟩ ⟨rfl, rel_ite (hR.set _ id h) h⟩

theorem pctAct_u_rel (cfg : DecoderCfg) (h1 h2 h3 h4 : UInt8) (k : Nat) {s s' : FS} (h : R s s') :
    DRel R (pctAct cfg (decodeUParams cfg h1 h2 h3 h4 s).1 k (decodeUParams cfg h1 h2 h3 h4 s).2)
      (pctAct cfg (decodeUParams cfg h1 h2 h3 h4 s').1 k (decodeUParams cfg h1 h2 h3 h4 s').2) := by
  obtain ⟨e, h'⟩ := decodeUParams_rel hR cfg h1 h2 h3 h4 h
  rw [e]
  exact pctAct_rel hR cfg _ k h'

theorem invalid_rel (cfg : DecoderCfg) (hd : InvalidHandling) {t t' : FS} (h : R t t') :
    DRel R (match hd with | .remove => (t, .drop) | _ => pctAct cfg 0x25 0 t)
      (match hd with | .remove => (t', .drop) | _ => pctAct cfg 0x25 0 t') := by
  match hd with
  | .remove => exact ⟨h, rfl⟩
  | .preserve | .process => exact pctAct_rel hR cfg _ _ h

theorem urlDecide_rel (cfg : DecoderCfg) (c : UInt8) (tl : Bytes) {s s' : FS} (h : R s s') :
    DRel R (urlDecide cfg c tl s) (urlDecide cfg c tl s') := by
  have hk : R ⟨s.flags, unwanted cfg.uEncodingUnwanted s.status⟩ ⟨s'.flags, unwanted cfg.uEncodingUnwanted s'.status⟩ :=
    hR.keep (unwanted cfg.uEncodingUnwanted) h
  have hi := invalidEncU_rel hR cfg h
  have hu := invalidEncU_rel hR cfg hk
  unfold urlDecide
  dsimp only
  generalize handling cfg = hd
  apply rel_ite
  · rcases tl with _ | ⟨x, _ | ⟨y, more⟩⟩
    · exact invalid_rel hR cfg hd hi
    · exact invalid_rel hR cfg hd hi
    · apply rel_ite
      · rcases more with _ | ⟨h2, _ | ⟨h3, _ | ⟨h4, more⟩⟩⟩
        · exact invalid_rel hR cfg hd hu
        · exact invalid_rel hR cfg hd hu
        · exact invalid_rel hR cfg hd hu
        · apply rel_ite
          · exact pctAct_u_rel hR cfg _ _ _ _ _ hk
          · match hd with
            | .remove => exact ⟨hu, rfl⟩
            | .preserve => exact pctAct_rel hR cfg _ _ hu
            | .process => exact pctAct_u_rel hR cfg _ _ _ _ _ hu
      · apply rel_ite
        · exact pctAct_rel hR cfg _ _ h
        · match hd with
          | .remove => exact ⟨hi, rfl⟩
          | .preserve | .process => exact pctAct_rel hR cfg _ _ hi
  · exact rel_ite ⟨h, rfl⟩
      (rel_ite (rel_ite ⟨hR.set _ (unwanted cfg.nulRawUnwanted) h, rfl⟩ ⟨hR.set _ (unwanted cfg.nulRawUnwanted) h, rfl⟩) ⟨h, rfl⟩)

omit hR

structure StRel (R : FS → FS → Prop) (s s' : St) : Prop where
  fs : R ⟨s.flags, s.status⟩ ⟨s'.flags, s'.status⟩
  out : s.out = s'.out
  stop : s.stop = s'.stop

theorem applyUrl_rel {R : FS → FS → Prop} {s s' : St} {d d' : FS × Act} (h : StRel R s s') (hd : DRel R d d') :
    StRel R (applyUrl s d).1 (applyUrl s' d').1 ∧ (applyUrl s d).2 = (applyUrl s' d').2 := by
  unfold applyUrl
  rw [hd.2]
  cases d'.2 with
  | emit c k => exact ⟨⟨hd.1, congrArg (c :: ·) h.out, h.stop⟩, rfl⟩
  | drop => exact ⟨⟨hd.1, h.out, h.stop⟩, rfl⟩
  | stop => exact ⟨⟨hd.1, h.out, rfl⟩, rfl⟩

/-- start two runs at `{ flags, status }` each with `⟨h, rfl, rfl⟩` (`h : R` of the start pair) and read `.out`, `.fs` or `.stop` -/
theorem urlLoop_rel {R : FS → FS → Prop} (hR : FSRel R) (cfg : DecoderCfg) (input : Bytes) (skip : Nat) {s s' : St} (h : StRel R s s') :
    StRel R (urlLoop cfg input skip s) (urlLoop cfg input skip s') := by
  induction input generalizing skip s s' with
  | nil => exact h
  | cons c tl ih =>
    unfold urlLoop
    rw [← h.stop]
    split
    · exact h
    · cases skip with
      | succ k => exact ih k h
      | zero =>
        have hs := applyUrl_rel h (urlDecide_rel hR cfg c tl h.fs)
        dsimp only [urlStep]
        rw [hs.2]
        exact ih _ hs.1

theorem urldecodeEx_out (cfg : DecoderCfg) (input : Bytes) (f f' : Nat) (st st' : Int) :
    (urldecodeEx cfg input f st).1 = (urldecodeEx cfg input f' st').1 :=
  congrArg List.reverse (urlLoop_rel (R := fun _ _ => True) ⟨fun _ _ _ => trivial, fun _ _ => trivial⟩ cfg input 0
    (s := { flags := f, status := st }) (s' := { flags := f', status := st' }) ⟨trivial, rfl, rfl⟩).out

end Htp.Decode
