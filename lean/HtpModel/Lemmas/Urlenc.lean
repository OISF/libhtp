/- Pattern P1 for the urlencoded parser: the chunk-level `feed` refines a byte-at-a-time abstract
   machine whose only memory of the field under construction is its bytes (`pend`). The refinement is general in the start state: any
   `s` with `Inv s` and `s.complete = false` (after `finalize` the parser closes the field at every end of a chunk, and the cut shows). -/
import HtpModel.Urlenc

namespace Htp.Urlenc
open Htp.Gen Htp.Decode
set_option linter.unusedVariables false

/-- abstract state: the builder pieces and the unconsumed part of the chunk are one byte string -/
structure A where
  state : PState := .key
  name : Option Bytes := none
  pend : Bytes := []
  complete : Bool := false
  params : List (Bytes × Bytes) := []
  flags : Nat := 0
  status : Int := 0
  deriving Repr, DecidableEq, Inhabited

/-- pieces are only ever buffered when non-empty (the `endpos - startpos > 0` test in htp_urlenp_add_field_piece). Not the whole
    precondition of the refinement: `feed_chunks_abs` also asks `s.complete = false`. -/
def Inv (s : S) : Prop := ∀ p ∈ s.bb, p ≠ []

/-- `cur`: the bytes of the current chunk scanned but not yet handed over, reversed; `[]` between calls. The fields of `A` project
    definitionally (`congrArg A.params`). -/
def absS (s : S) (cur : Bytes) : A :=
  { state := s.state, name := s.name, pend := s.bb.flatten ++ cur.reverse, complete := s.complete,
    params := s.params, flags := s.flags, status := s.status }

def toS (a : A) : S :=
  { state := a.state, name := a.name, bb := [], complete := a.complete, params := a.params,
    flags := a.flags, status := a.status }

def ofS (s : S) (pend : Bytes) : A :=
  { state := s.state, name := s.name, pend := pend, complete := s.complete, params := s.params,
    flags := s.flags, status := s.status }

def fieldA (a : A) : Option Bytes := if a.pend = [] then none else some a.pend

/-- a delimiter (or completion) closes the field under construction -/
def closeA (cfg : DecoderCfg) (a : A) (last : Option UInt8) : A :=
  let field := fieldA a
  let s := toS a
  match a.state with
  | .key =>
    if a.complete || last == some AMP then
      if field.isSome || last == some AMP then
        ofS { addParam cfg (field.getD []) [] s with name := none } []
      else ofS s []
    else ofS { s with name := field } []
  | .value =>
    ofS (addParam2 cfg (s.name.getD []) (field.getD []) { s with name := none }) []

/-- the byte-at-a-time machine -/
def stepA (cfg : DecoderCfg) (a : A) (c : UInt8) : A :=
  match a.state with
  | .key =>
    if c == EQS || c == AMP then
      { closeA cfg a (some c) with state := if c == AMP then .key else .value }
    else { a with pend := a.pend ++ [c] }
  | .value =>
    if c == AMP then { closeA cfg a (some c) with state := .key }
    else { a with pend := a.pend ++ [c] }

def finalizeA (cfg : DecoderCfg) (a : A) : A := closeA cfg { a with complete := true } none

/-- does byte `c` end the field under construction in state `st`; the parser and the machine take the same decision -/
def delim (st : PState) (c : UInt8) : Bool :=
  match st with
  | .key => c == EQS || c == AMP
  | .value => c == AMP

def after (st : PState) (c : UInt8) : PState :=
  match st with
  | .key => if c == AMP then .key else .value
  | .value => .key

theorem stepA_eq (cfg : DecoderCfg) (a : A) (c : UInt8) :
    stepA cfg a c =
      if delim a.state c then { closeA cfg a (some c) with state := after a.state c } else { a with pend := a.pend ++ [c] } := by
  unfold stepA
  cases a.state <;> rfl

theorem feedLoop_cons (cfg : DecoderCfg) (c : UInt8) (rest cur : Bytes) (s : S) :
    feedLoop cfg (c :: rest) cur s =
      if delim s.state c then feedLoop cfg rest [] { addFieldPiece cfg s cur.reverse (some c) with state := after s.state c }
      else feedLoop cfg rest (c :: cur) s := by
  rw [feedLoop]
  cases s.state <;> rfl

theorem assemble_eq (s : S) (piece : Bytes) (hi : Inv s) :
    assemble s piece =
      ((if s.bb.flatten ++ piece = [] then none else some (s.bb.flatten ++ piece)), { s with bb := [] }) := by
  unfold assemble
  by_cases hb : s.bb = []
  · have hs : ({ s with bb := [] } : S) = s := by rw [← hb]
    cases piece <;> simp [hb, hs]
  · obtain ⟨p, hp⟩ := List.exists_mem_of_ne_nil _ hb
    have hne : s.bb.flatten ≠ [] := fun h => hi p hp (List.flatten_eq_nil_iff.mp h p hp)
    cases piece <;> simp [hb, hne]

theorem closeField_frame (cfg : DecoderCfg) (s : S) (f : Option Bytes) (last : Option UInt8) :
    (closeField cfg s f last).bb = s.bb ∧ (closeField cfg s f last).complete = s.complete := by
  unfold closeField
  cases s.state with
  | value => exact ⟨rfl, rfl⟩
  | key =>
    dsimp only
    split
    · split <;> exact ⟨rfl, rfl⟩
    · exact ⟨rfl, rfl⟩

theorem close_abs (cfg : DecoderCfg) (s : S) (cur : Bytes) (last : Option UInt8) (hi : Inv s)
    (hl : last.isSome = true ∨ s.complete = true) :
    absS (addFieldPiece cfg s cur.reverse last) [] = closeA cfg (absS s cur) last := by
  have hcond : (last.isSome || s.complete) = true := by
    rcases hl with h | h <;> simp [h]
  unfold addFieldPiece
  rw [if_pos hcond, assemble_eq s cur.reverse hi]
  unfold closeField closeA fieldA absS toS ofS
  dsimp only
  generalize (if s.bb.flatten ++ cur.reverse = [] then none else some (s.bb.flatten ++ cur.reverse) : Option Bytes) = field
  cases s.state with
  | key =>
    dsimp only
    split
    · split
      · simp [addParam, dec]
      · simp
    · simp
  | value => simp [addParam2, dec]

theorem addFieldPiece_inv (cfg : DecoderCfg) (s : S) (piece : Bytes) (last : Option UInt8) (hi : Inv s) :
    Inv (addFieldPiece cfg s piece last) := by
  unfold addFieldPiece
  split
  · rw [Inv, (closeField_frame ..).1, assemble_eq s piece hi]
    exact fun p hp => nomatch hp
  · split
    · intro p hp
      rcases List.mem_append.mp hp with h | h
      · exact hi p h
      · rw [List.mem_singleton.mp h]
        exact List.ne_nil_of_length_pos ‹_›
    · exact hi

theorem addFieldPiece_open (cfg : DecoderCfg) (s : S) (cur : Bytes) (hc : s.complete = false) :
    absS (addFieldPiece cfg s cur.reverse none) [] = absS s cur := by
  by_cases hp : cur = []
  · simp [addFieldPiece, absS, hc, hp]
  · simp [addFieldPiece, absS, hc, List.length_pos_iff.mpr hp]

theorem addFieldPiece_complete (cfg : DecoderCfg) (s : S) (piece : Bytes) (last : Option UInt8) :
    (addFieldPiece cfg s piece last).complete = s.complete := by
  unfold addFieldPiece
  split
  · rw [(closeField_frame ..).2]
    unfold assemble
    split <;> rfl
  · split <;> rfl

/-- **P1**: feeding a chunk = folding the byte-step machine over its bytes -/
theorem feedLoop_abs (cfg : DecoderCfg) (rest cur : Bytes) (s : S) (hi : Inv s) (hc : s.complete = false) :
    absS (feedLoop cfg rest cur s) [] = rest.foldl (stepA cfg) (absS s cur) ∧
    Inv (feedLoop cfg rest cur s) ∧ (feedLoop cfg rest cur s).complete = false := by
  induction rest generalizing cur s with
  | nil =>
    exact ⟨addFieldPiece_open cfg s cur hc, addFieldPiece_inv cfg s _ _ hi, by rw [feedLoop, addFieldPiece_complete, hc]⟩
  | cons c rest ih =>
    rw [List.foldl_cons, feedLoop_cons, stepA_eq]
    have hst : (absS s cur).state = s.state := rfl
    rw [hst]
    by_cases hd : delim s.state c = true
    · rw [if_pos hd, if_pos hd, ← close_abs cfg s cur (some c) hi (Or.inl rfl)]
      exact ih [] { addFieldPiece cfg s cur.reverse (some c) with state := after s.state c }
        (addFieldPiece_inv cfg s cur.reverse (some c) hi) (by rw [← hc]; exact addFieldPiece_complete ..)
    · have h := ih (c :: cur) s hi hc
      rw [show absS s (c :: cur) = { absS s cur with pend := (absS s cur).pend ++ [c] } by simp [absS]] at h
      rw [if_neg hd, if_neg hd]
      exact h

/-- for any start state: the fold over the chunks is the byte machine over their concatenation; the second and third conjunct let
    `finalize_abs` or another `feed_chunks_abs` apply to the result -/
theorem feed_chunks_abs (cfg : DecoderCfg) (chunks : List Bytes) (s : S) (hi : Inv s) (hc : s.complete = false) :
    absS (chunks.foldl (feed cfg) s) [] = chunks.flatten.foldl (stepA cfg) (absS s []) ∧
    Inv (chunks.foldl (feed cfg) s) ∧ (chunks.foldl (feed cfg) s).complete = false := by
  induction chunks generalizing s with
  | nil => simp [hi, hc]
  | cons ch rest ih =>
    have h1 := feedLoop_abs cfg ch [] s hi hc
    have h2 := ih (feed cfg s ch) h1.2.1 h1.2.2
    simp only [List.foldl_cons, List.flatten_cons, List.foldl_append]
    unfold feed at h2 ⊢
    rw [← h1.1]
    exact h2

theorem finalize_abs (cfg : DecoderCfg) (s : S) (hi : Inv s) :
    absS (finalize cfg s) [] = finalizeA cfg (absS s []) := by
  unfold finalize finalizeA
  simp only [feedLoop]
  have := close_abs cfg { s with complete := true } [] none hi (Or.inr rfl)
  simpa [absS] using this

end Htp.Urlenc
