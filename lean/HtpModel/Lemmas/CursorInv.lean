/- The request direction's record under the request-direction functions. Every tx-level function leaves chunk, cursors and line buffer
   alone (`KeepI`; `KeepIn` is its cursor part, `KeepBuf` its buffer part: `ReqTx.keepI`, from what these functions keep, Lemmas/TxWalk.lean);
   so every predicate on the record that the cursor primitives keep (`DirInv`, Lemmas/DirInv.lean) is, as a relation (`InvRel`), an
   instance of the walk over the request state functions (`reqRelS_inv` here; the walk is Lemmas/StateWalk.lean). Its first use is C01, the cursors stay
   inside the chunk: 0 <= consume <= read <= len <= |chunk| (`WFCur`). Second part of the file: the line buffer stays within the hard limit
   and the cursors inside the chunk (`WFB`), per state function and for the whole loop of a data call (`reqDriverLoop_wfb`, along
   `CallReach`, Lemmas/DriverRule.lean); `inBufLen`: the bound carried from call to call (C10, C01). -/
import HtpModel.Lemmas.DirInv
import HtpModel.Lemmas.StateWalk
namespace Htp.Conn
open Htp Htp.Gen

def KeepIn (c c' : Conn) : Prop := SameCur c.inn c'.inn

def KeepBuf (c c' : Conn) : Prop := c'.inn.buf = c.inn.buf

/-- what `DirInv` predicates look at, for the request direction -/
@[reducible] def InCur (c : Conn) : Int × Int × Int × Bytes × Bool × Option Bytes :=
  (c.inn.read, c.inn.len, c.inn.consume, c.inn.cur, c.inn.curNull, c.inn.buf)

@[reducible] def KeepI (c c' : Conn) : Prop := InCur c' = InCur c

theorem KeepI.refl (c : Conn) : KeepI c c := rfl
theorem KeepI.trans {a b c : Conn} (h1 : KeepI a b) (h2 : KeepI b c) : KeepI a c := Eq.trans h2 h1
theorem KeepI.keepIn {c c' : Conn} (h : KeepI c c') : KeepIn c c' :=
  ⟨congrArg (·.1) h, congrArg (·.2.1) h, congrArg (·.2.2.1) h, congrArg (·.2.2.2.1) h, congrArg (·.2.2.2.2.1) h⟩
theorem KeepI.keepBuf {c c' : Conn} (h : KeepI c c') : KeepBuf c c' :=
  show c'.inn.buf = c.inn.buf from congrArg (·.2.2.2.2.2) h

theorem KeepI.of_quiet {c c' : Conn} (h : ReqQuiet c c') : KeepI c c' :=
  congrArg (fun v : Dir × Dir × ResState => (v.1.read, v.1.len, v.1.consume, v.1.cur, v.1.curNull, v.1.buf)) h

theorem ReqTx.keepI {S : ReqState → Prop} {c c' : Conn} (h : ReqTx S c c') : KeepI c c' := .of_quiet h.1
theorem ReqTx.keepIn {S : ReqState → Prop} {c c' : Conn} (h : ReqTx S c c') : KeepIn c c' := h.keepI.keepIn
theorem ReqTx.keepBuf {S : ReqState → Prop} {c c' : Conn} (h : ReqTx S c c') : KeepBuf c c' := h.keepI.keepBuf


theorem keepI_txCreate (cfg : Cfg) (c : Conn) : KeepI c (txCreate cfg c).1 := by
  unfold txCreate
  simp only []
  split <;> exact rfl

theorem keepBuf_txStateRequestComplete (cfg : Cfg) (uid : Nat) (c : Conn) : KeepBuf c (txStateRequestComplete cfg uid c).1 :=
  (reqTx_txStateRequestComplete cfg uid c).keepBuf

section
variable {hard : Nat} {B : Prop} {P : Dir → Prop}

theorem DirInv.keep (I : DirInv hard B P) {c c' : Conn} (k : KeepI c c') (w : P c.inn) : P c'.inn :=
  I.same w k.keepIn k.keepBuf

def InvRel (P : Dir → Prop) (c c' : Conn) : Prop := P c.inn → P c'.inn

/-- a predicate the cursor primitives keep is kept by everything the request state functions do: with this instance the walk of
    Lemmas/StateWalk.lean gives `P c.inn → P (f c).1.inn` for every state function `f`, the parts of a pass and the driver loop -/
theorem reqRelS_inv {cfg : Cfg} (I : DirInv cfg.fieldLimitHard B P) : ReqRelS cfg B (fun _ => True) (InvRel P) where
  toReqFnRel := (reqTx_fn _).mono (fun q w => I.keep (.of_quiet q.1) w) fun h1 h2 w => h2 (h1 w)
  same h w := I.eq w (congrArg (fun x : Conn => (x.inn.read, x.inn.len, x.inn.consume, x.inn.cur, x.inn.curNull, x.inn.buf)) h :)
  flag09 _ w := w
  cursor h w := I.step h w
  txCreate c w := I.keep (keepI_txCreate cfg c) w
  status _ _ w := I.eq w rfl
  outTunnel _ w := w

end

/-- **every request state function keeps the cursors inside the chunk**: 0 <= consume <= read <= len <= |chunk| is preserved by each of the
    fourteen state functions, whatever they answer, provided the two counted body states do not owe a negative amount -/
theorem wfIn_reqStateFn (cfg : Cfg) (c : Conn) (w : WFCur c.inn)
    (ho1 : c.inState = ReqState.bodyIdentity → 0 ≤ c.inn.bodyDataLeft)
    (ho2 : c.inState = ReqState.bodyChunkedData → 0 ≤ c.inn.chunkedLength) : WFCur (reqStateFn cfg c).1.inn :=
  (walk_reqStateFn cfg (reqRelS_inv (dirInv_wfCur _)) c (fun _ => ho1) (fun _ => ho2)) w

theorem wfIn_reqHandleStateChange (c : Conn) (w : WFCur c.inn) : WFCur (reqHandleStateChange c).1.inn :=
  walk_reqHandleStateChange (reqRelS_inv (cfg := {}) (dirInv_wfCur _)).toReqFnRel c w

theorem wf_reqStoreChunk (d : Bytes) (c : Conn) (h : (d.length : Int) < 18446744073709551616) :
    WFCur (reqStoreChunk (some d) d.length c).inn := by
  unfold reqStoreChunk
  exact ⟨rfl, Int.le_refl _, Int.le_refl _, by simp only []; omega, by simp [Option.getD], h⟩

def WFB (hard : Nat) (d : Dir) : Prop := WFCur d ∧ (d.buf.map (·.length)).getD 0 ≤ hard

/-- `WFB hard` is kept by the cursor primitives: the cursor half is `dirInv_wfCur`; the line buffer is written by `buffer` (refused when
    it would exceed the limit) and `clearBuffer` only -/
theorem dirInv_wfb (hard : Nat) : DirInv hard True (WFB hard) where
  same w h hb := ⟨(dirInv_wfCur hard).same w.1 h hb, by rw [hb]; exact w.2⟩
  step h w := by
    refine ⟨(dirInv_wfCur hard).step h w.1, ?_⟩
    cases h with
    | copy h => rw [(Dir.copyByte_eq h).2.1]; exact w.2
    | take h => rw [(Dir.nextByteConsume_eq h).2]; exact w.2
    | setAside h => exact Dir.buffer_bound h (by have := w.1.rl; have := w.1.small; have := w.1.c0; omega) w.2
    | clear => exact Nat.zero_le _
    | advance n _ => exact w.2
    | readAll n => exact w.2

theorem wfbIn_reqStateFn (cfg : Cfg) (c : Conn) (w : WFB cfg.fieldLimitHard c.inn)
    (ho1 : c.inState = ReqState.bodyIdentity → 0 ≤ c.inn.bodyDataLeft)
    (ho2 : c.inState = ReqState.bodyChunkedData → 0 ≤ c.inn.chunkedLength) : WFB cfg.fieldLimitHard (reqStateFn cfg c).1.inn :=
  (walk_reqStateFn cfg (reqRelS_inv (dirInv_wfb _)) c (fun _ => ho1) (fun _ => ho2)) w

theorem reqDriverLoop_wfb (cfg : Cfg) (fuel : Nat) (c0 c : Conn) (hr : CallReach cfg c0 c) (w : WFB cfg.fieldLimitHard c.inn)
    (ho : ∀ c', CallReach cfg c0 c' → OwedOK c') :
    WFB cfg.fieldLimitHard (reqDriverLoop cfg false fuel c).1.inn :=
  have K := reqRelS_inv (cfg := cfg) (dirInv_wfb cfg.fieldLimitHard)
  (reqDriverLoop_is cfg false).rule (I := fun c => CallReach cfg c0 c ∧ WFB cfg.fieldLimitHard c.inn)
    (Q := fun r => WFB cfg.fieldLimitHard r.1.inn) (fun _ h => h.2) (fun _ h => h.2)
    (fun c r h hs => by
      cases reqStep_false hs
      have wp : WFB cfg.fieldLimitHard (reqPass cfg c).1.inn :=
        walk_reqPassHook K.toReqFnRel _ _ (wfbIn_reqStateFn cfg c h.2 (ho c h.1).1 (ho c h.1).2)
      exact ⟨fun _ _ => wp, fun hok ht => ⟨h.1.pass hok (beq_eq_false_iff_ne.mpr ht), wp⟩, fun _ _ e => walk_reqEnds K e wp⟩)
    fuel c ⟨hr, w⟩

def inBufLen (c : Conn) : Nat := (c.inn.buf.map (·.length)).getD 0

/-- **a whole request data call keeps the line buffer within the hard limit**: any state, any chunk of data (not a gap), any callback policy -
    provided no pass of the call finds a negative amount owed in a counted body state. The bound at the return is the hypothesis `hb` of
    the next call: it is carried from call to call (`reqData_invariant`, Lemmas/Owed.lean). -/
theorem reqData_buffer_bounded (cfg : Cfg) (d : Bytes) (c : Conn) (hs : (d.length : Int) < 18446744073709551616)
    (hb : inBufLen c ≤ cfg.fieldLimitHard)
    (ho : ∀ c', CallReach cfg (reqWakeOther (reqStoreChunk (some d) d.length c)) c' → OwedOK c') :
    inBufLen (reqData cfg (some d) d.length c).1 ≤ cfg.fieldLimitHard := by
  have wst : WFB cfg.fieldLimitHard (reqStoreChunk (some d) d.length c).inn := ⟨wf_reqStoreChunk d c hs, hb⟩
  rw [reqData_eq]
  refine reqDataCore_cases (P := fun r => inBufLen r.1 ≤ cfg.fieldLimitHard) cfg _ _ c
    (fun _ => hb) (fun _ => hb) (fun _ _ => hb) (fun _ _ => hb) (fun _ _ => hb) fun _ _ _ _ => ?_
  have w0 : WFB cfg.fieldLimitHard (reqWakeOther (reqStoreChunk (some d) d.length c)).inn := by rw [reqWakeOther_inn]; exact wst
  exact (reqDriverLoop_wfb cfg _ _ _ CallReach.start w0 ho).2

end Htp.Conn
