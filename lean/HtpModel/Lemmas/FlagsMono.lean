/- C11, over whole runs: the indicator bits of a stored transaction (`tx->flags`: REQUEST_SMUGGLING, FIELD_REPEATED, HOST_AMBIGUOUS, the
   PATH_* family, ...) are never cleared. Every write to `flags` in the model is an OR of the old word with something, or the result of a
   parser function that threads the word through (`requestFraming`, `requestHost`, the URL decoders, URI normalisation, the urlencoded
   parser); the small lemmas here show that each of those returns a word that contains the one it was given. The relation
   between two states and the theorem over whole call histories are in Lemmas/FlagsMonoHist.lean (it reads the flags clause of the
   per-transaction relation `TxCont`, Lemmas/TxCont.lean, which the walk over the model carries). -/
import HtpModel.Conn.Res
import HtpModel.Lemmas.Decode
import HtpModel.Lemmas.Flags
namespace Htp
open Htp.Gen

namespace Decode

macro_rules | `(tactic| flag_step) => `(tactic| apply FlagSub.app_ite FS.flags)

theorem decodeUPath_flags (cfg : DecoderCfg) (h1 h2 h3 h4 : UInt8) (s : FS) {a : Nat} (h : FlagSub a s.flags) :
    FlagSub a (decodeUPath cfg h1 h2 h3 h4 s).2.flags := by
  unfold decodeUPath
  dsimp only
  -- not `flag_mono`: here and below `app_ite` has to be told the projection through which an `if` between pairs is read
  with_reducible repeat' first
    | exact h | apply FlagSub.setFlag | apply FlagSub.app_ite FS.flags | apply FlagSub.app_ite (fun r : UInt8 × FS => r.2.flags)
macro_rules | `(tactic| flag_step) => `(tactic| apply decodeUPath_flags)

theorem invalidEnc_flags (cfg : DecoderCfg) (s : FS) {a : Nat} (h : FlagSub a s.flags) : FlagSub a (invalidEnc cfg s).flags :=
  h.or_right _
macro_rules | `(tactic| flag_step) => `(tactic| apply invalidEnc_flags)

theorem pathDecide_flags (cfg : DecoderCfg) (c : UInt8) (tl : Bytes) (s : FS) {a : Nat} (h : FlagSub a s.flags) :
    FlagSub a (pathDecide cfg c tl s).1.flags := by
  have ite := @FlagSub.app_ite (FS × Act) (fun r => r.1.flags) a
  unfold pathDecide
  dsimp only
  generalize handling cfg = hd
  apply ite
  · rcases tl with _ | ⟨x, _ | ⟨y, more⟩⟩
    · cases hd <;> flag_mono
    · cases hd <;> flag_mono
    · apply ite
      · rcases more with _ | ⟨h2, _ | ⟨h3, _ | ⟨h4, more⟩⟩⟩
        · cases hd <;> flag_mono
        · cases hd <;> flag_mono
        · cases hd <;> flag_mono
        · apply ite
          · flag_mono
          · cases hd <;> flag_mono
      · apply ite
        · (with_reducible repeat' apply ite) <;> flag_mono
        · cases hd <;> flag_mono
  · (with_reducible repeat' apply ite) <;> flag_mono
macro_rules | `(tactic| flag_step) => `(tactic| apply pathDecide_flags)

theorem app_ite_eq {α β : Type} (g : α → β) {v : β} {p : Prop} [Decidable p] {x y : α}
    (hx : g x = v) (hy : g y = v) : g (if p then x else y) = v :=
  rel_ite (Q := fun u _ => g u = v) (x' := x) (y' := y) hx hy

theorem emitPath_flags (cfg : DecoderCfg) (c : UInt8) (s : St) : (emitPath cfg c s).flags = s.flags := by
  unfold emitPath
  dsimp only
  repeat' first | rfl | apply app_ite_eq St.flags

theorem applyPath_flags (cfg : DecoderCfg) (s : St) (d : FS × Act) : (applyPath cfg s d).1.flags = d.1.flags := by
  unfold applyPath
  simp only []
  split
  · exact emitPath_flags ..
  · rfl
  · rfl

theorem pathStep_flags (cfg : DecoderCfg) (c : UInt8) (tl : Bytes) (s : St) {a : Nat} (h : FlagSub a s.flags) :
    FlagSub a (pathStep cfg c tl s).1.flags := by
  unfold pathStep
  rw [applyPath_flags]
  flag_mono

theorem pathLoop_flags (cfg : DecoderCfg) (inp : Bytes) (k : Nat) (s : St) {a : Nat} (h : FlagSub a s.flags) :
    FlagSub a (pathLoop cfg inp k s).flags := by
  induction inp generalizing k s with
  | nil => unfold pathLoop; exact h
  | cons c tl ih =>
    unfold pathLoop
    split
    · exact h
    · cases k with
      | succ k => exact ih k s h
      | zero => exact ih _ _ (pathStep_flags cfg c tl s h)

theorem decodePath_flags (cfg : DecoderCfg) (inp : Bytes) (flags : Nat) (status : Int) {a : Nat} (h : FlagSub a flags) :
    FlagSub a (decodePath cfg inp flags status).2.1 := by
  unfold decodePath
  exact pathLoop_flags cfg inp 0 _ h
macro_rules | `(tactic| flag_step) => `(tactic| apply decodePath_flags)

theorem urldecodeEx_flags (cfg : DecoderCfg) (inp : Bytes) (flags : Nat) (status : Int) {a : Nat} (h : FlagSub a flags) :
    FlagSub a (urldecodeEx cfg inp flags status).2.1 :=
  (urlLoop_rel (R := fun s _ => FlagSub a s.flags) ⟨fun f _ h => h.setFlag f, fun _ h => h⟩ cfg inp 0
    (s := { flags := flags, status := status }) (s' := { flags := flags, status := status }) ⟨h, rfl, rfl⟩).fs
macro_rules | `(tactic| flag_step) => `(tactic| apply urldecodeEx_flags)

/-- htp_tx_urldecode_uri_inplace decodes from an empty word and ORs the translated PATH_* bits into the transaction's word -/
theorem txUrldecodeUri_flags (cfg : DecoderCfg) (inp : Bytes) (flags : Nat) (status : Int) {a : Nat} (h : FlagSub a flags) :
    FlagSub a (txUrldecodeUri cfg inp flags status).2.1 := by
  unfold txUrldecodeUri
  dsimp only
  flag_mono
macro_rules | `(tactic| flag_step) => `(tactic| apply txUrldecodeUri_flags)

theorem overlongFlag_flags (counter cp flags : Nat) {a : Nat} (h : FlagSub a flags) : FlagSub a (overlongFlag counter cp flags) := by
  unfold overlongFlag
  split <;> flag_mono

theorem utf8DecStep_flags (cfg : DecoderCfg) (u : U8) (b : UInt8) {a : Nat} (h : FlagSub a u.flags) :
    FlagSub a (utf8DecStep cfg u b).1.flags := by
  unfold utf8DecStep
  dsimp only
  with_reducible repeat' first
    | exact h | apply FlagSub.app_ite (fun r : U8 × Bool => r.1.flags) | apply FlagSub.ite | apply FlagSub.setFlag
    | apply overlongFlag_flags

theorem utf8DecLoop_flags (cfg : DecoderCfg) (inp : Bytes) (u : U8) {a : Nat} (h : FlagSub a u.flags) :
    FlagSub a (utf8DecLoop cfg inp u).flags := by
  induction inp generalizing u with
  | nil => unfold utf8DecLoop; exact h
  | cons b tl ih =>
    unfold utf8DecLoop
    simp only []
    split
    · exact ih _ (utf8DecStep_flags cfg u b h)
    · exact ih _ (utf8DecStep_flags cfg _ b (utf8DecStep_flags cfg u b h))

theorem utf8Finish_flags (u : U8) {a : Nat} (h : FlagSub a u.flags) : FlagSub a (utf8Finish u) := by
  unfold utf8Finish
  split <;> flag_mono

theorem utf8DecodePath_flags (cfg : DecoderCfg) (inp : Bytes) (flags : Nat) (status : Int) {a : Nat} (h : FlagSub a flags) :
    FlagSub a (utf8DecodePath cfg inp flags status).2.1 := by
  unfold utf8DecodePath
  exact utf8Finish_flags _ (utf8DecLoop_flags cfg inp _ h)
macro_rules | `(tactic| flag_step) => `(tactic| apply utf8DecodePath_flags)

theorem utf8ValStep_flags (u : U8) (b : UInt8) {a : Nat} (h : FlagSub a u.flags) : FlagSub a (utf8ValStep u b).flags := by
  unfold utf8ValStep
  dsimp only
  with_reducible repeat' first
    | exact h | apply FlagSub.app_ite U8.flags | apply FlagSub.app_ite (fun r : Bool × Nat => r.2) | apply FlagSub.ite
    | apply FlagSub.setFlag | apply overlongFlag_flags

theorem utf8ValFold_flags (inp : Bytes) (u : U8) {a : Nat} (h : FlagSub a u.flags) : FlagSub a (inp.foldl utf8ValStep u).flags := by
  induction inp generalizing u with
  | nil => exact h
  | cons b tl ih => exact ih _ (utf8ValStep_flags u b h)

theorem utf8ValidatePath_flags (inp : Bytes) (flags : Nat) {a : Nat} (h : FlagSub a flags) : FlagSub a (utf8ValidatePath inp flags) := by
  unfold utf8ValidatePath
  exact utf8Finish_flags _ (utf8ValFold_flags inp _ h)
macro_rules | `(tactic| flag_step) => `(tactic| apply utf8ValidatePath_flags)

/-- the path pipeline of htp_normalize_parsed_uri: decode, UTF-8, dot segments -/
theorem pipeline_flags (cfg : DecoderCfg) (path : Bytes) (flags : Nat) (status : Int) {a : Nat} (h : FlagSub a flags) :
    FlagSub a (pipeline cfg path flags status).2.1 := by
  unfold pipeline
  simp only []
  split <;> flag_mono
macro_rules | `(tactic| flag_step) => `(tactic| apply pipeline_flags)

end Decode

namespace Uri

/-- an optional component through a stage `g` of htp_normalize_parsed_uri (the component decoder, the path pipeline) -/
def optStage (g : Bytes → Nat → Int → Bytes × Nat × Int) (b : Option Bytes) (flags : Nat) (status : Int) : Option Bytes × Nat × Int :=
  match b with
  | some x => let (o, f, s) := g x flags status; (some o, f, s)
  | none => (none, flags, status)

theorem optStage_flags {g : Bytes → Nat → Int → Bytes × Nat × Int} {a : Nat} (hg : ∀ x f s, FlagSub a f → FlagSub a (g x f s).2.1)
    (b : Option Bytes) (flags : Nat) (status : Int) (h : FlagSub a flags) : FlagSub a (optStage g b flags status).2.1 := by
  unfold optStage
  cases b with
  | none => exact h
  | some x => exact hg x flags status h
macro_rules | `(tactic| flag_step) => `(tactic| apply optStage_flags (fun _ _ _ => Decode.txUrldecodeUri_flags _ _ _ _))
macro_rules | `(tactic| flag_step) => `(tactic| apply optStage_flags (fun _ _ _ => Decode.pipeline_flags _ _ _ _))

def portFlags (port : Option Bytes) (flags : Nat) : Int × Nat :=
  match port with
  | some p =>
    let v := Num.parsePositiveIntegerWhitespace p 10
    if v < 0 then (-1, setFlag flags HOSTU_INVALID)
    else if v > 0 ∧ v < 65536 then (v, flags)
    else (-1, setFlag flags HOSTU_INVALID)
  | none => (-1, flags)

theorem portFlags_flags (port : Option Bytes) (flags : Nat) {a : Nat} (h : FlagSub a flags) : FlagSub a (portFlags port flags).2 := by
  unfold portFlags
  cases port <;> dsimp only <;>
    with_reducible repeat' first | exact h | apply FlagSub.app_ite (fun r : Int × Nat => r.2) | apply FlagSub.setFlag
macro_rules | `(tactic| flag_step) => `(tactic| apply portFlags_flags)

theorem normalizeParsedUri_flags_eq (cfg : DecoderCfg) (u : UriRaw) (flags : Nat) (status : Int) :
    (normalizeParsedUri cfg u flags status).2.1 =
      (let dec := optStage (Decode.txUrldecodeUri cfg)
       let r1 := dec u.username flags status
       let r2 := dec u.password r1.2.1 r1.2.2
       let r3 := dec u.hostname r2.2.1 r2.2.2
       let f4 := (portFlags u.port r3.2.1).2
       let r5 := optStage (Decode.pipeline cfg) u.path f4 r3.2.2
       (dec u.fragment r5.2.1 r5.2.2).2.1) := rfl

theorem normalizeParsedUri_flags (cfg : DecoderCfg) (u : UriRaw) (flags : Nat) (status : Int) {a : Nat} (h : FlagSub a flags) :
    FlagSub a (normalizeParsedUri cfg u flags status).2.1 := by
  rw [normalizeParsedUri_flags_eq]
  simp only []
  flag_mono
macro_rules | `(tactic| flag_step) => `(tactic| apply normalizeParsedUri_flags)

end Uri

namespace Urlenc

theorem dec_flags (cfg : DecoderCfg) (b : Bytes) (s : S) {a : Nat} (h : FlagSub a s.flags) : FlagSub a (dec cfg b s).2.flags := by
  unfold dec
  simp only []
  flag_mono
macro_rules | `(tactic| flag_step) => `(tactic| apply dec_flags)

theorem addParam_flags (cfg : DecoderCfg) (n v : Bytes) (s : S) {a : Nat} (h : FlagSub a s.flags) : FlagSub a (addParam cfg n v s).flags := by
  unfold addParam
  simp only []
  flag_mono

theorem addParam2_flags (cfg : DecoderCfg) (n v : Bytes) (s : S) {a : Nat} (h : FlagSub a s.flags) : FlagSub a (addParam2 cfg n v s).flags := by
  unfold addParam2
  simp only []
  flag_mono

theorem assemble_flags (s : S) (piece : Bytes) : (assemble s piece).2.flags = s.flags := by
  unfold assemble
  split <;> rfl

theorem closeField_flags (cfg : DecoderCfg) (s : S) (field : Option Bytes) (last : Option UInt8) {a : Nat} (h : FlagSub a s.flags) :
    FlagSub a (closeField cfg s field last).flags := by
  unfold closeField
  cases s.state <;> dsimp only <;>
    with_reducible repeat' first
      | exact h | apply FlagSub.app_ite S.flags | apply addParam_flags | apply addParam2_flags

theorem addFieldPiece_flags (cfg : DecoderCfg) (s : S) (piece : Bytes) (last : Option UInt8) {a : Nat} (h : FlagSub a s.flags) :
    FlagSub a (addFieldPiece cfg s piece last).flags := by
  unfold addFieldPiece
  split
  · exact closeField_flags cfg _ _ _ (by rw [assemble_flags]; exact h)
  · split
    · exact h
    · exact h

theorem feedLoop_flags (cfg : DecoderCfg) (inp cur : Bytes) (s : S) {a : Nat} (h : FlagSub a s.flags) :
    FlagSub a (feedLoop cfg inp cur s).flags := by
  induction inp generalizing cur s with
  | nil => unfold feedLoop; exact addFieldPiece_flags cfg s _ _ h
  | cons c rest ih =>
    unfold feedLoop
    split
    · split
      · exact ih _ _ (addFieldPiece_flags cfg s _ _ h)
      · exact ih _ _ h
    · split
      · exact ih _ _ (addFieldPiece_flags cfg s _ _ h)
      · exact ih _ _ h

theorem feed_flags (cfg : DecoderCfg) (s : S) (chunk : Bytes) {a : Nat} (h : FlagSub a s.flags) : FlagSub a (feed cfg s chunk).flags :=
  feedLoop_flags cfg chunk [] s h
macro_rules | `(tactic| flag_step) => `(tactic| apply feed_flags)

theorem finalize_flags (cfg : DecoderCfg) (s : S) {a : Nat} (h : FlagSub a s.flags) : FlagSub a (finalize cfg s).flags :=
  feedLoop_flags cfg [] [] _ h
macro_rules | `(tactic| flag_step) => `(tactic| apply finalize_flags)

end Urlenc

namespace Conn

theorem requestFraming_flags_mono (hs : List Parse.Header) (p : Int) (fl : Nat) {a : Nat} (h : FlagSub a fl) :
    FlagSub a (requestFraming hs p fl).flags := by
  have ite := @FlagSub.app_ite Framing Framing.flags a
  unfold requestFraming
  dsimp only
  cases getHeaderC hs (b!"transfer-encoding") <;> cases getHeaderC hs (b!"content-length") <;> dsimp only <;>
    with_reducible repeat' first | exact h | apply ite | apply FlagSub.ite | apply FlagSub.or_right
macro_rules | `(tactic| flag_step) => `(tactic| apply requestFraming_flags_mono)

theorem requestHost_flags_mono (hs : List Parse.Header) (uh : Option Bytes) (up p : Int) (fl : Nat) {a : Nat} (h : FlagSub a fl) :
    FlagSub a (requestHost hs uh up p fl).2.2 := by
  unfold requestHost
  cases getHeaderC hs (b!"host") with
  | none => dsimp only; with_reducible repeat' first | exact h | apply FlagSub.ite | apply FlagSub.or_right
  | some hd =>
    dsimp only
    cases (Uri.parseHostport hd.value).hostname <;> cases uh <;> dsimp only <;>
      with_reducible repeat' first | exact h | apply FlagSub.ite | apply FlagSub.or_right
macro_rules | `(tactic| flag_step) => `(tactic| apply requestHost_flags_mono)

end Conn
end Htp
