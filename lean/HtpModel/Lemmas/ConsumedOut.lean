/- ONE STATE FUNCTION of the response direction at a time (Lemmas/ConsumedCallOut.lean is the whole call): the counterpart of
   Lemmas/Consumed.lean and Lemmas/Answer.lean for the ten state functions behind htp_connp_res_data. RES_IDLE, RES_BODY_DETERMINE,
   RES_BODY_IDENTITY_STREAM_CLOSE and RES_BODY_CHUNKED_DATA_END are walked for what both answers say (`SaysOut`, `SaysTx`); of the others
   only the HTP_DATA half is proved (`ConsumedOut`, C09) - what their HTP_OK says is the open part of C08 (Lemmas/DriverFuelOut.lean).
   RES_LINE and RES_HEADERS are walked for any invariant of the cursor record that knows there is a byte to peek at while `read < len`
   (`consumedOut_resStateFn_inv`): `WFCur` for one state function, `WFBO` inside the loop of a call. -/
import HtpModel.Lemmas.Consumed
import HtpModel.Lemmas.BufInvOut
namespace Htp.Conn
open Htp Htp.Gen

theorem cbRc_resReceiverSend (l : Bool) (c : Conn) : CbRc (resReceiverSend l c).2 := by
  unfold resReceiverSend
  cases c.out.receiverHook with
  | none => exact Or.inl rfl
  | some h =>
    simp only
    exact andThen_cases (Q := fun r => CbRc r.2) _ _ (fun _ => cbRc_runCallback ..) fun _ => Or.inl rfl

theorem cbRc_resReceiverFinalizeClear (c : Conn) : CbRc (resReceiverFinalizeClear c).2 := by
  unfold resReceiverFinalizeClear
  cases c.out.receiverHook with
  | none => exact Or.inl rfl
  | some h => simp only; exact cbRc_resReceiverSend true c

theorem noData_resReceiverFinalizeClear (c : Conn) : NoData (resReceiverFinalizeClear c).2 := (cbRc_resReceiverFinalizeClear c).noData

theorem noData_processResponseHeader (d : Bytes) (c : Conn) : NoData (processResponseHeader d c).2 := by
  unfold processResponseHeader; exact NoData.ok

theorem noData_resFlushHeader (c : Conn) : NoData (resFlushHeader c).2 := by
  unfold resFlushHeader
  cases c.out.header with
  | none => exact NoData.ok
  | some h => simp only; split <;> first | exact NoData.error | exact NoData.ok

theorem noData_txStateResponseLine (uid : Nat) (c : Conn) : NoData (txStateResponseLine uid c).2 := by
  unfold txStateResponseLine; exact noData_runCallback ..

theorem cbRc_txStateResponseHeaders (cfg : Cfg) (uid : Nat) (c : Conn) : CbRc (txStateResponseHeaders cfg uid c).2 := by
  unfold txStateResponseHeaders
  simp only
  generalize responseNeedsDecompressor cfg _ = p
  obtain ⟨enc, needs⟩ := p
  simp only
  refine andThen_cases (Q := fun r => CbRc r.2) _ _ (fun _ => cbRc_resReceiverFinalizeClear _) fun _ =>
    andThen_cases (Q := fun r => CbRc r.2) _ _ (fun _ => cbRc_runCallback ..) fun _ => ?_
  -- the decompressor chain is installed or not: HTP_OK either way
  repeat' split
  all_goals exact Or.inl rfl

theorem noData_resProcessBodyData (cfg : Cfg) (data : Option Bytes) (c : Conn) : NoData (resProcessBodyData cfg data c).2 := by
  unfold resProcessBodyData
  cases c.out.tx with
  | none => exact NoData.error
  | some uid =>
    dsimp only
    refine NoData.ite (NoData.ite NoData.error (NoData.ite NoData.ok NoData.ok)) (NoData.ite ?_ NoData.error)
    exact NoData.ite NoData.error NoData.ok

theorem noData_txFinalize (cfg : Cfg) (uid : Nat) (c : Conn) : NoData (txFinalize cfg uid c).2 := by
  unfold txFinalize
  cases c.findTx uid with
  | none => exact NoData.ok
  | some t =>
    simp only
    split
    · exact NoData.ok
    · apply noData_andThen
      · exact noData_runCallback ..
      · intro c1
        -- after the callback every branch answers a literal HTP_OK
        repeat' split
        all_goals exact NoData.ok

theorem noData_txStateResponseCompleteEx (cfg : Cfg) (uid : Nat) (c : Conn) : NoData (txStateResponseCompleteEx cfg uid c).2 := by
  unfold txStateResponseCompleteEx
  simp only
  apply noData_andThen
  · split
    · apply noData_andThen
      · exact noData_runCallback ..
      · intro c1; exact noData_resReceiverFinalizeClear _
    · exact NoData.ok
  · intro c1
    split
    · exact NoData.dataOther
    · split
      · exact NoData.dataOther
      · apply noData_andThen
        · exact noData_txFinalize ..
        · intro c2; exact NoData.ok

def ConsumedOut (r : R) : Prop := (r.2 = Rc.data ∨ r.2 = Rc.dataBuffer) → r.1.out.len ≤ r.1.out.read

theorem consumedOut_of_noData (r : R) (h : NoData r.2) : ConsumedOut r := by
  intro hd; rcases hd with hd | hd
  · exact absurd hd h.1
  · exact absurd hd h.2

theorem ConsumedOut.ite {p : Prop} [Decidable p] {a b : R} (ha : ConsumedOut a) (hb : ConsumedOut b) :
    ConsumedOut (if p then a else b) := by
  split
  · exact ha
  · exact hb

theorem consumedOut_andThen (r : R) (f : Conn → R) (h1 : NoData r.2) (h2 : ∀ c, ConsumedOut (f c)) : ConsumedOut (r >>? f) :=
  andThen_cases r f (fun _ => consumedOut_of_noData _ h1) fun _ => h2 _

abbrev SaysOut := SaysAt fun c => c.out.len ≤ c.out.read

theorem says_txStateResponseStart (uid : Nat) (c : Conn) :
    SaysTx (fun c' => c'.outState = .line ∨ c'.outState = .bodyIdentityStreamClose) (txStateResponseStart uid c) := by
  unfold txStateResponseStart
  simp only
  exact says_andThen _ _ (noData_runCallback ..) fun c1 => says_ite (fun _ => says_ok (.inr rfl)) fun _ => says_ok (.inl rfl)

theorem saysOut_resIdle (cfg : Cfg) (c : Conn) :
    SaysOut (fun c' => c.out.read < c.out.len ∧ (c'.outState = .line ∨ c'.outState = .bodyIdentityStreamClose)) (resIdle cfg c) := by
  unfold resIdle
  refine says_ite (fun h => says_data (by decide) h) fun hlt => ?_
  have start : ∀ uid c1, SaysOut (fun c' => c.out.read < c.out.len ∧ (c'.outState = .line ∨ c'.outState = .bodyIdentityStreamClose))
      (txStateResponseStart uid c1) := fun uid c1 =>
    (says_txStateResponseStart uid c1).of_tx fun _ h => ⟨by omega, h⟩
  simp only
  split
  · unfold resIdleUnmatched
    rcases txCreate cfg _ with ⟨c1, u⟩
    cases u with
    | none => exact says_rc (by decide) .error
    | some uid => exact start _ _
  · exact start _ _

theorem saysOut_resChunkedDataEndLoop (fuel : Nat) (c : Conn) :
    SaysOut (fun c' => Adv c.out c'.out ∧ c'.outState = .bodyChunkedLength) (resChunkedDataEndLoop fuel c) := by
  induction fuel generalizing c with
  | zero => exact says_rc (by decide) .error
  | succ k ih =>
    unfold resChunkedDataEndLoop
    cases hn : c.out.nextByteConsume with
    | none => exact says_data (by decide) (Dir.nextByteConsume_none hn)
    | some p =>
      obtain ⟨d, b⟩ := p
      obtain ⟨hl, hr⟩ := nextByteConsume_mv _ _ _ hn
      refine says_ite (fun _ => says_ok ⟨by simp only [modOut_out]; exact ⟨hl, by omega⟩, rfl⟩) fun _ => ?_
      refine ⟨okP_mono (ih _).1 fun c' ⟨⟨e1, e2⟩, e3⟩ => ?_, (ih _).2⟩
      simp only [modOut_out] at e1 e2
      exact ⟨⟨by rw [e1, hl], by omega⟩, e3⟩

theorem consumedOut_resChunkedLengthLoop (cfg : Cfg) (fuel : Nat) (c : Conn) : ConsumedOut (resChunkedLengthLoop cfg fuel c) := by
  induction fuel generalizing c with
  | zero => unfold resChunkedLengthLoop; exact consumedOut_of_noData _ NoData.error
  | succ k ih =>
    rw [resChunkedLengthLoop]
    cases hn : c.out.copyByte with
    | none => intro _; exact Dir.copyByte_none_iff.1 hn
    | some p =>
      obtain ⟨d, b⟩ := p
      dsimp only
      apply ConsumedOut.ite (ih _)
      cases d.consolidate cfg.fieldLimitHard false with
      | none => exact consumedOut_of_noData _ NoData.error
      | some q =>
        dsimp only
        apply ConsumedOut.ite (ih _)
        apply ConsumedOut.ite (consumedOut_of_noData _ NoData.ok)
        exact ConsumedOut.ite (consumedOut_of_noData _ NoData.ok) (consumedOut_of_noData _ NoData.ok)

theorem noData_runCallbackN (n : Nat) (h : Hook) (uid : Option Nat) (data : Option Bytes) (l : Bool) (g : Nat) (c : Conn) :
    NoData (runCallbackN n h uid data l g c).2 := by
  induction n generalizing c with
  | zero => unfold runCallbackN; exact NoData.ok
  | succ k ih =>
    unfold runCallbackN
    apply noData_andThen
    · exact noData_runCallback ..
    · intro c2; exact ih c2

theorem noData_resProcessBodyDataGap (cfg : Cfg) (data : Option Bytes) (g : Nat) (c : Conn) :
    NoData (resBodyIdentityClKnown.resProcessBodyDataGap cfg data g c).2 := by
  unfold resBodyIdentityClKnown.resProcessBodyDataGap
  split
  · exact noData_resProcessBodyData ..
  · cases c.out.tx with
    | none => exact NoData.error
    | some uid =>
      simp only
      split
      · split
        · exact NoData.error
        · apply noData_andThen
          · exact noData_runCallbackN ..
          · intro c2; exact noData_runCallback ..
      · exact NoData.ok

theorem took_resBodyChunkedData (cfg : Cfg) (c : Conn) :
    Took ResState.bodyChunkedDataEnd (c.out.read, c.out.len, c.out.chunkedLength, c.outState) (resBodyChunkedData cfg c).2
      ((resBodyChunkedData cfg c).1.out.read, (resBodyChunkedData cfg c).1.out.len, (resBodyChunkedData cfg c).1.out.chunkedLength,
        (resBodyChunkedData cfg c).1.outState) := by
  rw [resBodyChunkedData_eq cfg c]
  exact takeBody_took (v := fun c => (c.out.read, c.out.len, c.out.chunkedLength, c.outState)) (fun _ => rfl) (fun _ => rfl)
    (fun n c => ⟨congrArg (fun x : Int × Int × Int × Int × ResState => (x.1, x.2.1, x.2.2.2.1, x.2.2.2.2)) (resTx_resProcessBodyData ..).body,
      noData_resProcessBodyData ..⟩)
    (fun _ _ => rfl) (fun c => ⟨rfl, NoData.ok⟩) c

/-- RES_BODY_IDENTITY_CL_KNOWN on an open stream is a counted body state, whose last step is the hand-over to RES_FINALIZE -/
theorem took_resBodyIdentityClKnown (cfg : Cfg) (c : Conn) (hc : (c.out.status == STREAM_CLOSED) = false) :
    Took ResState.finalize (c.out.read, c.out.len, c.out.bodyDataLeft, c.outState) (resBodyIdentityClKnown cfg c).2
      ((resBodyIdentityClKnown cfg c).1.out.read, (resBodyIdentityClKnown cfg c).1.out.len,
        (resBodyIdentityClKnown cfg c).1.out.bodyDataLeft, (resBodyIdentityClKnown cfg c).1.outState) := by
  rw [resBodyIdentityClKnown_open cfg c hc]
  exact takeBody_took (v := fun c => (c.out.read, c.out.len, c.out.bodyDataLeft, c.outState)) (fun _ => rfl) (fun _ => rfl)
    (fun n c => ⟨congrArg (fun x : Int × Int × Int × Int × ResState => (x.1, x.2.1, x.2.2.1, x.2.2.2.2)) (resTx_resProcessBodyDataGap ..).body,
      noData_resProcessBodyDataGap ..⟩)
    (fun _ _ => rfl)
    (fun c => ⟨congrArg (fun x : Int × Int × Int × Int × ResState => (x.1, x.2.1, x.2.2.1, x.2.2.2.2))
      (resTx_resProcessBodyData cfg none { c with outState := .finalize }).body, noData_resProcessBodyData ..⟩) c

theorem consumedOut_resBodyIdentityClKnown (cfg : Cfg) (c : Conn) (ho : 0 < c.out.bodyDataLeft) :
    ConsumedOut (resBodyIdentityClKnown cfg c) := by
  cases hc : c.out.status == STREAM_CLOSED with
  | true => rw [resBodyIdentityClKnown_closed cfg c hc]; exact consumedOut_of_noData _ (noData_resProcessBodyData ..)
  | false => exact (took_resBodyIdentityClKnown cfg c hc).consumed ho

theorem saysOut_resBodyIdentityStreamClose (cfg : Cfg) (c : Conn) :
    SaysOut (fun c' => c'.outState = .finalize ∧ c'.out.status = STREAM_CLOSED) (resBodyIdentityStreamClose cfg c) := by
  -- of what takes the bytes: it never answers HTP_DATA, and after HTP_OK the chunk is used up
  let Q : R → Prop := fun r => NoData r.2 ∧ (r.2 = .ok → r.1.out.len ≤ r.1.out.read)
  have key : ∀ r : R, Q r → SaysOut (fun c' => c'.outState = .finalize ∧ c'.out.status = STREAM_CLOSED)
      (r >>? fun c => if c.out.status == STREAM_CLOSED then ({ c with outState := .finalize }, Rc.ok) else (c, Rc.data)) := fun r h =>
    andThen_cases r _ (fun hn => says_tx (okP_ne hn) h.1) fun hok =>
      says_ite (fun hc => says_ok ⟨rfl, by simpa using hc⟩) fun _ => says_data (by decide) (h.2 hok)
  have gap : ∀ data g, Q (let (c1, rc1) := resBodyIdentityClKnown.resProcessBodyDataGap cfg data g c
      if rc1 != .ok then (c1, rc1) else ({ c1 with out := c1.out.advance (c.out.len - c.out.read) }, .ok)) := by
    intro data g
    have hf := (inert_resProcessBodyDataGap cfg data g c).1
    have hnd := noData_resProcessBodyDataGap cfg data g c
    generalize resBodyIdentityClKnown.resProcessBodyDataGap cfg data g c = Pg at hf hnd ⊢
    obtain ⟨c1, rc1⟩ := Pg
    obtain ⟨hr, hl, _⟩ := hf.out_fields
    refine ite_cases (P := Q) (fun hne => ⟨hnd, fun e => absurd e (by simpa using hne)⟩) fun _ => ⟨.ok, fun _ => ?_⟩
    simp only [Dir.advance] at hr hl ⊢
    omega
  unfold resBodyIdentityStreamClose
  refine key _ (ite_cases (P := Q) (fun _ => gap _ _) fun hz => ⟨.ok, fun _ => ?_⟩)
  have : c.out.len - c.out.read = 0 := by simpa using hz
  show c.out.len ≤ c.out.read
  omega

theorem consumedOut_resBodyChunkedData (cfg : Cfg) (c : Conn) (ho : 0 < c.out.chunkedLength) : ConsumedOut (resBodyChunkedData cfg c) :=
  (took_resBodyChunkedData cfg c).consumed ho

/-- where RES_BODY_DETERMINE leaves the parser when it answers HTP_OK -/
def AfterDetermine (s : ResState) : Prop :=
  s = .finalize ∨ s = .line ∨ s = .bodyIdentityClKnown ∨ s = .bodyIdentityStreamClose ∨ s = .bodyChunkedLength

theorem says_resCl (cl ct : Option Parse.Header) (uid : Nat) (c : Conn) : SaysTx (fun c' => AfterDetermine c'.outState) (resCl cl ct uid c) := by
  unfold resCl
  cases cl with
  | some cl' =>
    exact says_ite (fun _ => says_rc (by decide) .error) fun _ =>
      says_ite (fun _ => says_ok (.inr (.inr (.inl rfl)))) fun _ => says_ok (.inl rfl)
  | none =>
    cases ct with
    | none =>
      simp only [Bool.false_eq_true, if_false]
      exact says_ok (.inr (.inr (.inr (.inl rfl))))
    | some ct' => exact says_ite (fun _ => says_rc (by decide) .error) fun _ => says_ok (.inr (.inr (.inr (.inl rfl))))

theorem says_resFraming (te cl ct : Option Parse.Header) (uid : Nat) (c : Conn) :
    SaysTx (fun c' => AfterDetermine c'.outState) (resFraming te cl ct uid c) := by
  unfold resFraming
  cases te with
  | none => exact says_resCl _ _ _ _
  | some te' => exact says_ite (fun _ => says_ok (.inr (.inr (.inr (.inr rfl))))) fun _ => says_resCl _ _ _ _

theorem says_resFramingStep (uid : Nat) (t : Tx) (te cl : Option Parse.Header) (c : Conn) :
    SaysTx (fun c' => AfterDetermine c'.outState) (resFramingStep uid t te cl c) := by
  unfold resFramingStep
  exact says_ite (fun _ => says_resFraming _ _ _ _ _) fun h => says_ok (.inl (by simpa using h))

/-- htp_tx_state_response_headers, which ends most paths of RES_BODY_DETERMINE, does not move the parser -/
theorem says_resBodyDetermine (cfg : Cfg) (c : Conn) : SaysTx (fun c' => AfterDetermine c'.outState) (resBodyDetermine cfg c) := by
  have hdrs : ∀ uid c1, AfterDetermine c1.outState →
      SaysTx (fun c' => AfterDetermine c'.outState) (txStateResponseHeaders cfg uid c1) := fun uid c1 h =>
    says_tx (fun _ => (resTx_txStateResponseHeaders cfg uid c1).outState ▸ h) (cbRc_txStateResponseHeaders ..).noData
  unfold resBodyDetermine
  cases c.out.tx with
  | none => exact says_rc (by decide) .error
  | some uid =>
    refine says_ite (fun _ => hdrs _ _ (.inl rfl)) fun _ => ?_
    unfold resBodyDetermineRest
    extract_lets c1 cl te is100
    clear_value c1 is100
    refine says_ite (fun _ => hdrs _ _ (.inl ?_)) fun _ => says_ite (fun _ => says_ok (.inr (.inl rfl))) fun _ => ?_
    · unfold resSwitchTunnel
      simp only []
      split <;> rfl
    · have h := says_resFramingStep uid c.outTx te cl (resNoBody uid c.outTx te cl (resExpectShortcut c.outTx c1))
      exact andThen_cases _ _ (fun hn => says_tx (okP_ne hn) h.noData) fun hok => hdrs _ _ (h.1 hok)

theorem consumedOut_resFinalize (cfg : Cfg) (c : Conn) : ConsumedOut (resFinalize cfg c) := by
  unfold resFinalize
  cases c.out.tx with
  | none => exact consumedOut_of_noData _ NoData.error
  | some uid =>
    simp only
    split
    · intro _; show c.out.len ≤ c.out.len; omega
    · exact consumedOut_of_noData _ (noData_txStateResponseCompleteEx ..)
    · split
      · exact consumedOut_of_noData _ NoData.error
      · split
        · exact consumedOut_of_noData _ (noData_txStateResponseCompleteEx ..)
        · split
          · apply consumedOut_of_noData
            rename_i c3 _ _ d3 data3 _ _ _
            rcases hx : resProcessBodyData cfg (some data3) { c3 with out := d3 } with ⟨c4, rc4⟩
            have := noData_resProcessBodyData cfg (some data3) { c3 with out := d3 }
            rw [hx] at this
            exact this
          · exact consumedOut_of_noData _ (noData_txStateResponseCompleteEx ..)

theorem noData_resLineAsBody (cfg : Cfg) (uid : Nat) (dn : Bool) (data line : Bytes) (cr : Nat) (c : Conn) :
    NoData (resLineAsBody cfg uid dn data line cr c).2 := by
  unfold resLineAsBody
  dsimp only
  exact NoData.ite NoData.ok (NoData.ite (noData_resProcessBodyData ..) (NoData.ite NoData.ok NoData.ok))

theorem noData_resLineComplete (cfg : Cfg) (uid : Nat) (closed : Bool) (c : Conn) : NoData (resLineComplete cfg uid closed c).2 := by
  unfold resLineComplete
  cases c.out.consolidate cfg.fieldLimitHard false with
  | none => exact NoData.error
  | some q =>
    dsimp only
    refine NoData.ite NoData.ok (NoData.ite (noData_resLineAsBody ..) ?_)
    exact noData_andThen _ _ (noData_txStateResponseLine ..) fun _ => NoData.ok

theorem noData_resHeaderLine (uid : Nat) (line : Bytes) (c : Conn) : NoData (resHeaderLine uid line c).2 := by
  unfold resHeaderLine
  split
  · apply noData_andThen
    · exact noData_resFlushHeader c
    · intro c1
      simp only []
      -- no callback from here on: every branch answers a literal HTP_OK or HTP_ERROR (so on the continuation line, below)
      repeat' split
      all_goals first | exact NoData.ok | exact NoData.error
  · simp only []
    repeat' split
    all_goals first | exact NoData.ok | exact NoData.error

section
variable {B : Prop} {P : Dir → Prop}

theorem consumedOut_resLineLoop (cfg : Cfg) (I : DirInv cfg.fieldLimitHard B P) (hpk : ∀ d, P d → d.peek = none → d.len ≤ d.read)
    (fuel : Nat) (c : Conn) (w : P c.out) : ConsumedOut (resLineLoop cfg fuel c) := by
  induction fuel generalizing c with
  | zero => unfold resLineLoop; exact consumedOut_of_noData _ NoData.error
  | succ k ih =>
    rw [resLineLoop_succ]
    cases c.out.tx with
    | none => exact consumedOut_of_noData _ NoData.error
    | some uid =>
      dsimp only
      cases h1 : resLineByte c with
      | none => exact fun _ => Dir.copyByte_none_iff.1 (resLineByte_none h1)
      | some c1 =>
        have w1 : P c1.out := by
          rcases resLineByte_some h1 with rfl | ⟨d, b, hcb, rfl⟩
          · exact w
          · exact I.copyByte w hcb
        dsimp only
        cases h2 : resLineCr c1 with
        | error rc => exact fun _ => hpk c1.out w1 (resLineCr_error h2)
        | ok p =>
          obtain ⟨c2, again⟩ := p
          obtain ⟨n, rfl⟩ := resLineCr_ok h2
          have w2 : P ({ c1 with out := { c1.out with nextByte := n } } : Conn).out := I.same w1 ⟨rfl, rfl, rfl, rfl, rfl⟩ rfl
          cases again with
          | true => exact ih _ w2
          -- a complete line (or the end of the stream): nothing below answers DATA
          | false => exact ConsumedOut.ite (ih _ w2) (consumedOut_of_noData _ (noData_resLineComplete ..))

theorem noData_resTrailer (uid : Nat) (c : Conn) : NoData (resTrailer uid c).2 := by
  unfold resTrailer
  apply noData_andThen
  · exact noData_resReceiverFinalizeClear _
  · intro c1
    apply noData_andThen
    · exact noData_runCallback ..
    · intro c2; exact NoData.ok

theorem noData_resHeadersEnd (uid : Nat) (c : Conn) : NoData (resHeadersEnd uid c).2 := by
  unfold resHeadersEnd
  apply noData_andThen
  · exact noData_resFlushHeader _
  · intro c1
    simp only
    split
    · exact NoData.ok
    · exact noData_resTrailer ..

theorem consumedOut_resHeadersLoop (cfg : Cfg) (I : DirInv cfg.fieldLimitHard B P) (hpk : ∀ d, P d → d.peek = none → d.len ≤ d.read)
    (fuel : Nat) (lfcr : Bool) (c : Conn) (w : P c.out) :
    ConsumedOut (resHeadersLoop cfg fuel lfcr c) := by
  induction fuel generalizing c lfcr with
  | zero => unfold resHeadersLoop; exact consumedOut_of_noData _ NoData.error
  | succ k ih =>
    rw [resHeadersLoop_succ]
    split
    · exact consumedOut_of_noData _ NoData.error
    · rename_i uid _
      split
      · exact consumedOut_of_noData _ (noData_resTrailer uid c)
      · split
        · rename_i hn
          intro _; exact Dir.copyByte_none_iff.1 hn
        · rename_i d b hn
          have wd := I.copyByte w hn
          split
          · exact ih _ _ wd
          · have he := eol_inv I b lfcr { c with out := d }
            split
            · rename_i rc heq
              rw [heq] at he
              intro _; exact (hpk d wd he : d.len ≤ d.read)
            · rename_i heq
              rw [heq] at he
              exact ih _ _ (he wd)
            · rename_i c2 lfcr2 ecr2 heq
              rw [heq] at he
              split
              · exact consumedOut_of_noData _ NoData.error
              · rename_i d2 data hc
                have w2 := I.consolidate (he wd) hc
                split
                · exact ih _ _ w2
                · split
                  · exact consumedOut_of_noData _ (noData_resHeadersEnd ..)
                  · exact andThen_cases _ _ (fun _ => consumedOut_of_noData _ (noData_resHeaderLine ..)) fun _ =>
                      ih _ _ (I.step .clear (I.keepO (keepO_resHeaderLine uid (Parse.chomp data).1 { c2 with out := d2 }) w2))

/-- the line and header states need an invariant of the cursor record that knows there is a byte to peek at while `read < len` -/
theorem consumedOut_resStateFn_inv (cfg : Cfg) (I : DirInv cfg.fieldLimitHard B P) (hpk : ∀ d, P d → d.peek = none → d.len ≤ d.read)
    (c : Conn) (hw : c.outState = ResState.line ∨ c.outState = ResState.headers → P c.out)
    (ho1 : c.outState = ResState.bodyIdentityClKnown → 0 < c.out.bodyDataLeft)
    (ho2 : c.outState = ResState.bodyChunkedData → 0 < c.out.chunkedLength) : ConsumedOut (resStateFn cfg c) := by
  unfold resStateFn
  cases hs : c.outState with
  | idle => exact (saysOut_resIdle cfg c).2
  | line => exact consumedOut_resLineLoop cfg I hpk _ c (hw (Or.inl hs))
  | headers => exact consumedOut_resHeadersLoop cfg I hpk _ false c (hw (Or.inr hs))
  | bodyDetermine => exact consumedOut_of_noData _ (says_resBodyDetermine cfg c).noData
  | bodyIdentityClKnown => exact consumedOut_resBodyIdentityClKnown cfg c (ho1 hs)
  | bodyIdentityStreamClose => exact (saysOut_resBodyIdentityStreamClose cfg c).2
  | bodyChunkedLength => exact consumedOut_resChunkedLengthLoop cfg _ c
  | bodyChunkedData => exact consumedOut_resBodyChunkedData cfg c (ho2 hs)
  | bodyChunkedDataEnd => exact (saysOut_resChunkedDataEndLoop _ c).2
  | finalize => exact consumedOut_resFinalize cfg c

end

/-- what `eol_spec` says of a result of `resHeadersEol`: it gave up at the end of the chunk, or the cursors are still inside it -/
def EolPost (c : Conn) : Except Rc (Conn × Bool × Bool × Bool) → Prop
  | .error _ => c.out.len ≤ c.out.read
  | .ok (c2, _, _, _) => WFCur c2.out

theorem eol_spec (b : UInt8) (lfcr : Bool) (c : Conn) (w : WFCur c.out) : EolPost c (resHeadersEol b lfcr c) := by
  have h := eol_inv (dirInv_wfCur 0) b lfcr c
  generalize resHeadersEol b lfcr c = r at h
  match r, h with
  | .error _, h => exact peek_none_wf _ w h
  | .ok (_, _, _, _), h => exact h w

end Htp.Conn
