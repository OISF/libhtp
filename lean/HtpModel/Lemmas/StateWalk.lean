/- The walk over the request-direction state functions, once for every relation `Rel c c'` between the connection before and after: a
   relation that is kept by the tx-level functions (`ReqFnRel`, Lemmas/TxWalk.lean) and by what the state functions write beyond them
   (`ReqRel`: a move of the cursor primitives on `c.inn` - `cursor`, over `Dir.Step` of Lemmas/Cursor.lean -, the writes of fields no
   relation reads, transaction creation) is kept by REQ_IDLE, REQ_LINE, ... and the state-change hook (`walk_req*`). Relations that also
   allow the stream statuses to be written (`ReqRelS`) are kept by REQ_CONNECT_CHECK, REQ_CONNECT_PROBE_DATA, every state function, the
   parts of a pass, and the driver loop. The response direction is in Lemmas/StateWalkOut.lean. -/
import HtpModel.Lemmas.TxWalk
import HtpModel.Lemmas.DriverPass
import HtpModel.Lemmas.DriverRule
import HtpModel.Lemmas.Cursor
namespace Htp.Conn
open Htp Htp.Gen

/-- what a relation of the state functions' layer may read: the state without the request side's bookkeeping (`reqCore`) and without
    the amounts the body states count down -/
def reqView (c : Conn) : Conn := reqCore { c with inn := { c.inn with contentLength := 0, bodyDataLeft := 0, chunkedLength := 0 } }

section
variable {S : ReqState → Prop} {Rel : Conn → Conn → Prop}

theorem walk_reqHeaderLine (K : ReqFnRel S Rel) (line : Bytes) (c : Conn) : Rel c (reqHeaderLine line c).1 := by
  unfold reqHeaderLine
  refine ite_fst (fun _ => ?_) fun _ => ?_
  · refine K.andThen _ _ _ (walk_reqFlushHeader K c) fun c1 => ?_
    have k0 : Rel c1 { c1 with inn := (c1.inn.peekSet).1 } := K.aux rfl
    simp only
    cases (c1.inn.peekSet).2 with
    | none => exact K.trans k0 (K.aux rfl)
    | some b =>
      refine ite_fst (fun _ => ?_) fun _ => K.trans k0 (K.aux rfl)
      have kk := K.trans k0 (walk_processRequestHeader K.toCbRel line { c1 with inn := (c1.inn.peekSet).1 })
      generalize processRequestHeader line { c1 with inn := (c1.inn.peekSet).1 } = r at kk ⊢
      exact ite_fst (fun _ => kk) fun _ => kk
  · cases c.inn.header with
    | none => exact K.trans (K.modIn _ c) (K.aux rfl)
    | some h => exact ite_fst (fun _ => K.aux rfl) fun _ => K.refl c

theorem walk_reqPassHook (K : ReqFnRel S Rel) (c : Conn) (rc : Rc) : Rel c (reqPassHook c rc).1 := by
  unfold reqPassHook
  exact ite_fst (fun _ => ite_fst (fun _ => K.refl c) fun _ => walk_reqHandleStateChange K c) fun _ => K.refl c

end

/-- `ReqFnRel` and what the request state functions write beyond the tx-level functions they call, under the configuration `cfg`
    (`consolidate` is called with its hard limit, transaction creation is capped by its `max_tx`). `B` says whether `Rel` bounds the
    cursors by the chunk, so that a body state may only advance by an amount that fits.
    Instances: `reqRel_reqFrame` (Lemmas/DirFrames.lean); of `ReqRelS`: `reqRelS_inv`
    (Lemmas/CursorInv.lean), `reqRelS_keeps` (Lemmas/ConnSweep.lean), `reqRelS_stTo` (Lemmas/Owed.lean), `reqRelS_reqCross`
    (Lemmas/HistoryFrames.lean). -/
structure ReqRel (cfg : Cfg) (B : Prop) (S : ReqState → Prop) (Rel : Conn → Conn → Prop) : Prop extends ReqFnRel S Rel where
  /-- a write to fields no relation reads (`K.same rfl`) -/
  same : ∀ {c c' : Conn}, reqView c' = reqView c → Rel c c'
  flag09 : ∀ c : Conn, Rel c { c with connFlags := setFlag c.connFlags CONN_HTTP_0_9_EXTRA }
  cursor : ∀ {c : Conn} {d : Dir}, Dir.Step cfg.fieldLimitHard B c.inn d → Rel c { c with inn := d }
  txCreate : ∀ c, Rel c (txCreate cfg c).1

/-- ... and the writes of the two stream statuses, for the parts of a pass and the driver loop -/
structure ReqRelS (cfg : Cfg) (B : Prop) (S : ReqState → Prop) (Rel : Conn → Conn → Prop) : Prop extends ReqRel cfg B S Rel where
  /-- REQ_CONNECT_CHECK, the tunnel switch, the end of a data call -/
  status : ∀ (c : Conn) (s : Nat), Rel c { c with inn := { c.inn with status := s } }
  /-- the one write of the other direction's status below the driver loop: the CONNECT probe switches the response direction to TUNNEL -
      unless it is in ERROR or STOP -/
  outTunnel : ∀ c : Conn, Rel c { c with out := { c.out with status :=
    if c.out.status == STREAM_ERROR || c.out.status == STREAM_STOP then c.out.status else STREAM_TUNNEL } }

section
variable {cfg : Cfg} {B : Prop} {S : ReqState → Prop} {Rel : Conn → Conn → Prop}

theorem ReqRel.consolidate (K : ReqRel cfg B S Rel) {c : Conn} {d : Dir} {data : Bytes}
    (h : c.inn.consolidate cfg.fieldLimitHard true = some (d, data)) : Rel c { c with inn := d } := by
  rcases Dir.consolidate_step (B := B) h with rfl | st
  · exact K.refl c
  · exact K.cursor st

theorem ReqRel.mono {Rel' : Conn → Conn → Prop} (K : ReqRel cfg B S Rel)
    (h : ∀ {c c'}, Rel c c' → Rel' c c') (trans : ∀ {a b c}, Rel' a b → Rel' b c → Rel' a c) : ReqRel cfg B S Rel' where
  toReqFnRel := K.toReqFnRel.mono h trans
  same e := h (K.same e)
  flag09 c := h (K.flag09 c)
  cursor e := h (K.cursor e)
  txCreate c := h (K.txCreate c)

/-- REQ_IDLE moves no cursor: it is walked for a `ReqFnRel` that accepts the creation of a transaction, so also for relations the
    cursor moves do not keep (`keepI_reqIdle`, Lemmas/DriverFuel.lean) -/
theorem walk_reqIdle (K : ReqFnRel S Rel) (hc : ∀ c, Rel c (txCreate cfg c).1) (c : Conn) (h : S .line := by trivial) :
    Rel c (reqIdle cfg c).1 := by
  unfold reqIdle
  refine ite_fst (fun _ => K.refl c) fun _ => ?_
  have k := hc c
  split
  rename_i c1 u hx
  rw [hx] at k
  cases u with
  | none => exact K.trans k (K.clearIn c1)
  | some uid => exact K.trans k (walk_txStateRequestStart K uid c1 h)

theorem walk_reqLineComplete (cfg : Cfg) (K : ReqRel cfg B S Rel) (c : Conn) (hp : S .protocol := by trivial) :
    Rel c (reqLineComplete cfg c).1 := by
  unfold reqLineComplete
  cases hc : c.inn.consolidate cfg.fieldLimitHard true with
  | none => exact K.refl c
  | some p =>
    obtain ⟨d, data⟩ := p
    have k0 : Rel c { c with inn := d } := K.consolidate hc
    refine ite_fst (fun _ => K.trans k0 (K.cursor .clear)) fun _ => ?_
    refine ite_fst (fun _ => K.trans (K.trans k0 (K.modIn _ _)) (K.cursor .clear)) fun _ => ?_
    extract_lets line rl c1
    have k1 : Rel c c1 := K.trans k0 (K.modIn _ _)
    clear_value c1
    cases c1.inn.tx with
    | none => exact k1
    | some uid =>
      have k2 := K.trans k1 (walk_txStateRequestLine K.toReqFnRel cfg uid c1 hp)
      simp only
      exact ite_fst (fun _ => k2) fun _ => K.trans k2 (K.cursor .clear)

theorem walk_reqLineLoop (cfg : Cfg) (K : ReqRel cfg B S Rel) (fuel : Nat) (c : Conn) (hp : S .protocol := by trivial) :
    Rel c (reqLineLoop cfg fuel c).1 := by
  induction fuel generalizing c with
  | zero => exact K.refl c
  | succ k ih =>
    unfold reqLineLoop
    simp only
    have kp : Rel c { c with inn := (c.inn.peekSet).1 } := K.same rfl
    refine ite_fst (fun _ => K.trans kp (walk_reqLineComplete cfg K _ hp)) fun _ => ?_
    cases hn : (c.inn.peekSet).1.copyByte with
    | none => exact kp
    | some p =>
      obtain ⟨d, b⟩ := p
      have kd : Rel c { c with inn := d } := K.trans kp (K.cursor (c := { c with inn := (c.inn.peekSet).1 }) (.copy hn))
      exact ite_fst (fun _ => K.trans kd (walk_reqLineComplete cfg K _ hp)) fun _ => K.trans kd (ih _)

theorem walk_reqProtocol (K : ReqRel cfg B S Rel) (c : Conn) (h1 : S .headers := by trivial) (h2 : S .finalize := by trivial) :
    Rel c (reqProtocol c).1 := by
  unfold reqProtocol
  have k : Rel c ({ c with inState := .headers }.modIn (fun t => { t with reqProgress := 2 })) :=
    K.trans (K.toState c _ h1) (K.modIn _ _)
  refine ite_fst (fun _ => k) fun _ => ?_
  refine ite_fst (fun _ => K.trans k (K.modIn _ _)) fun _ => ?_
  exact ite_fst (fun _ => K.trans k (K.modIn _ _)) fun _ => K.toState c _ h2

theorem walk_reqHeadersLoop (cfg : Cfg) (K : ReqRel cfg B S Rel) (fuel : Nat) (c : Conn) (h1 : S .finalize := by trivial)
    (h2 : S .connectCheck := by trivial) : Rel c (reqHeadersLoop cfg fuel c).1 := by
  induction fuel generalizing c with
  | zero => exact K.refl c
  | succ k ih =>
    rw [reqHeadersLoop_succ]
    cases c.inn.tx with
    | none => exact K.refl c
    | some uid =>
      refine ite_fst (fun _ => ?_) fun _ => ?_
      · refine K.andThen _ _ _ (walk_reqFlushHeader K.toReqFnRel c) fun c1 => ?_
        exact K.trans (K.trans (K.cursor (c := c1) .clear) (K.modIn _ _)) (walk_txStateRequestHeaders K.toReqFnRel cfg _ _ h1 h2)
      · cases hn : c.inn.copyByte with
        | none => exact K.refl c
        | some p =>
          obtain ⟨d, b⟩ := p
          have kd : Rel c { c with inn := d } := K.cursor (.copy hn)
          refine ite_fst (fun _ => K.trans kd (ih _)) fun _ => ?_
          cases hc : d.consolidate cfg.fieldLimitHard true with
          | none => exact kd
          | some q =>
            obtain ⟨d2, data⟩ := q
            refine K.trans (b := { c with inn := d2 }) (K.trans kd (K.consolidate (c := { c with inn := d }) hc)) ?_
            refine ite_fst (fun _ => ?_) fun _ => ?_
            · refine K.andThen _ _ _ (walk_reqFlushHeader K.toReqFnRel _) fun c1 => ?_
              exact K.trans (K.cursor (c := c1) .clear) (walk_txStateRequestHeaders K.toReqFnRel cfg _ _ h1 h2)
            · exact K.andThen _ _ _ (walk_reqHeaderLine K.toReqFnRel ..) fun c1 => K.trans (K.cursor (c := c1) .clear) (ih _)

theorem walk_reqConnectWaitResponse (K : ReqRel cfg B S Rel) (c : Conn) (h1 : S .connectProbeData := by trivial)
    (h2 : S .finalize := by trivial) : Rel c (reqConnectWaitResponse c).1 := by
  unfold reqConnectWaitResponse
  exact ite_fst (fun _ => K.refl c) fun _ => ite_fst (fun _ => K.toState c _ h1) fun _ => K.toState c _ h2

theorem walk_reqBodyDetermine (K : ReqRel cfg B S Rel) (c : Conn) (h1 : S .bodyChunkedLength := by trivial)
    (h2 : S .bodyIdentity := by trivial) (h3 : S .finalize := by trivial) : Rel c (reqBodyDetermine c).1 := by
  unfold reqBodyDetermine
  refine ite_fst (fun _ => K.trans (K.toState c _ h1) (K.modIn _ _)) fun _ => ?_
  refine ite_fst (fun _ => ?_) fun _ => ite_fst (fun _ => K.toState c _ h3) fun _ => K.refl c
  have k : Rel c { c with inn := { c.inn with contentLength := c.inTx.reqContentLength, bodyDataLeft := c.inTx.reqContentLength } } :=
    K.same rfl
  refine ite_fst (fun _ => ?_) fun _ => K.trans k (K.toState _ _ h3)
  exact K.trans (K.trans k (K.toState _ _ h2)) (K.modIn _ _)

/-- the counted body states (`takeBody`, Lemmas/DriverPass.lean), walked once. `v` reads (read offset, chunk length) off a state; the
    hooks keep them, so where the amount owed is not negative the amount taken fits into the chunk -/
theorem rel_takeBody {Rel : Conn → Conn → Prop} {B : Prop} (refl : ∀ c, Rel c c) (trans : ∀ {a b c}, Rel a b → Rel b c → Rel a c)
    {v : Conn → Int × Int} {avail owed : Conn → Int} {hook : Int → Conn → R} {adv : Int → Conn → Conn} {fin : Conn → R}
    (ha : ∀ c, avail c = (v c).2 - (v c).1) (hv : ∀ n c, v (hook n c).1 = v c) (hh : ∀ n c, Rel c (hook n c).1)
    (hd : ∀ n c1, (B → (v c1).1 ≤ (v c1).2 → 0 ≤ n ∧ n ≤ (v c1).2 - (v c1).1) → Rel c1 (adv n c1))
    (hf : ∀ c, Rel c (fin c).1) (c : Conn) (ho : B → 0 ≤ owed c) : Rel c (takeBody avail owed hook adv fin c).1 := by
  unfold takeBody
  extract_lets n
  have hn : B → (v c).1 ≤ (v c).2 → 0 ≤ n ∧ n ≤ (v c).2 - (v c).1 := by
    intro hb hrl
    have := ho hb
    simp only [n, ha]
    constructor <;> split <;> omega
  clear_value n
  refine ite_fst (fun _ => refl c) fun _ => ?_
  have k := hh n c
  have e := hv n c
  generalize hook n c = r1 at k e ⊢
  obtain ⟨c1, rc1⟩ := r1
  simp only at k e ⊢
  refine ite_fst (fun _ => k) fun _ => ?_
  have k2 := trans k (hd n c1 (by rw [e]; exact hn))
  exact ite_fst (fun _ => trans k2 (hf _)) fun _ => k2

theorem walk_reqBodyIdentity (K : ReqRel cfg B S Rel) (c : Conn) (ho : B → 0 ≤ c.inn.bodyDataLeft)
    (h : S .finalize := by trivial) : Rel c (reqBodyIdentity cfg c).1 := by
  rw [reqBodyIdentity_eq]
  refine rel_takeBody (v := fun c => (c.inn.read, c.inn.len)) K.refl K.trans (fun _ => rfl) ?_ ?_ ?_ ?_ c ho
  · exact fun n c => congrArg (fun x : Int × Int × Int × Int × ReqState => (x.1, x.2.1)) (reqTx_reqProcessBodyData ..).body
  · exact fun n c => walk_reqProcessBodyData K.toCbRel cfg ..
  · exact fun n c1 hf => K.trans (K.trans (K.cursor (c := c1) (.advance n hf)) (K.same rfl : Rel { c1 with inn := c1.inn.advance n }
        { c1 with inn := { c1.inn.advance n with bodyDataLeft := c1.inn.bodyDataLeft - n } }))
      (K.modIn (fun t => { t with reqMessageLen := t.reqMessageLen + n.toNat }) _)
  · exact fun c => K.toState c _ h

theorem walk_reqBodyChunkedData (K : ReqRel cfg B S Rel) (c : Conn) (ho : B → 0 ≤ c.inn.chunkedLength)
    (h : S .bodyChunkedDataEnd := by trivial) : Rel c (reqBodyChunkedData cfg c).1 := by
  rw [reqBodyChunkedData_eq]
  refine rel_takeBody (v := fun c => (c.inn.read, c.inn.len)) K.refl K.trans (fun _ => rfl) ?_ ?_ ?_ ?_ c ho
  · exact fun n c => congrArg (fun x : Int × Int × Int × Int × ReqState => (x.1, x.2.1)) (reqTx_reqProcessBodyData ..).body
  · exact fun n c => walk_reqProcessBodyData K.toCbRel cfg ..
  · exact fun n c1 hf => K.trans (K.trans (K.cursor (c := c1) (.advance n hf)) (K.same rfl : Rel { c1 with inn := c1.inn.advance n }
        { c1 with inn := { c1.inn.advance n with chunkedLength := c1.inn.chunkedLength - n } }))
      (K.modIn (fun t => { t with reqMessageLen := t.reqMessageLen + n.toNat }) _)
  · exact fun c => K.toState c _ h

theorem walk_reqChunkedDataEndLoop (K : ReqRel cfg B S Rel) (fuel : Nat) (c : Conn) (h : S .bodyChunkedLength := by trivial) :
    Rel c (reqChunkedDataEndLoop fuel c).1 := by
  induction fuel generalizing c with
  | zero => exact K.refl c
  | succ k ih =>
    unfold reqChunkedDataEndLoop
    cases hn : c.inn.nextByteConsume with
    | none => exact K.refl c
    | some p =>
      obtain ⟨d, b⟩ := p
      have k1 : Rel c ({ c with inn := d }.modIn (fun t => { t with reqMessageLen := t.reqMessageLen + 1 })) :=
        K.trans (K.cursor (.take hn)) (K.modIn _ _)
      exact ite_fst (fun _ => K.trans k1 (K.toState _ _ h)) fun _ => K.trans k1 (ih _)

theorem walk_reqChunkedLengthLoop (cfg : Cfg) (K : ReqRel cfg B S Rel) (fuel : Nat) (c : Conn)
    (s1 : S .bodyChunkedData := by trivial) (s2 : S .headers := by trivial) : Rel c (reqChunkedLengthLoop cfg fuel c).1 := by
  induction fuel generalizing c with
  | zero => exact K.refl c
  | succ k ih =>
    unfold reqChunkedLengthLoop
    cases hn : c.inn.copyByte with
    | none => exact K.refl c
    | some p =>
      obtain ⟨d, b⟩ := p
      have h0 : Rel c { c with inn := d } := K.cursor (.copy hn)
      refine ite_fst (fun _ => K.trans h0 (ih _)) fun _ => ?_
      cases hc : d.consolidate cfg.fieldLimitHard true with
      | none => exact h0
      | some q =>
        obtain ⟨d2, data⟩ := q
        simp -zeta only
        extract_lets c1 line src c2
        have h1 : Rel c c1 := K.trans (K.trans h0 (K.consolidate (c := { c with inn := d }) hc)) (K.modIn _ _)
        have h2 : Rel c c2 := K.trans h1 (K.trans (K.cursor (c := c1) .clear) (K.same rfl))
        clear_value c2 c1
        refine ite_fst (fun _ => K.trans h2 (K.toState _ _ s1)) fun _ => ?_
        exact ite_fst (fun _ => K.trans h2 (K.trans (K.toState c2 _ s2) (K.modIn _ _))) fun _ => h2

theorem walk_reqIgnore (K : ReqRel cfg B S Rel) (c : Conn) : Rel c (reqIgnoreDataAfter09 c).1 := by
  unfold reqIgnoreDataAfter09
  simp only []
  split
  · exact K.trans (K.flag09 c) (K.cursor (.advance _ fun _ h => ⟨Int.sub_nonneg_of_le h, Int.le_refl _⟩))
  · exact K.cursor (.advance _ fun _ h => ⟨Int.sub_nonneg_of_le h, Int.le_refl _⟩)

theorem walk_reqFinalizeScan (K : ReqRel cfg B S Rel) (fuel : Nat) {c : Conn} {d : Dir} (h : reqFinalizeScan fuel c.inn = some d) :
    Rel c { c with inn := d } := by
  induction fuel generalizing c with
  | zero => unfold reqFinalizeScan at h; simp only [Option.some.injEq] at h; rw [← h]; exact K.refl c
  | succ k ih =>
    unfold reqFinalizeScan at h
    simp only at h
    have kp : Rel c { c with inn := (c.inn.peekSet).1 } := K.same rfl
    split at h
    · simp only [Option.some.injEq] at h; rw [← h]; exact kp
    · cases hn : (c.inn.peekSet).1.copyByte with
      | none => rw [hn] at h; simp at h
      | some p =>
        obtain ⟨d1, b1⟩ := p
        rw [hn] at h
        exact K.trans (K.trans kp (K.cursor (c := { c with inn := (c.inn.peekSet).1 }) (.copy hn))) (ih (c := { c with inn := d1 }) h)

theorem walk_reqFinalize (cfg : Cfg) (K : ReqRel cfg B S Rel) (c : Conn) (h1 : S .idle := by trivial)
    (h2 : S .ignoreDataAfter09 := by trivial) : Rel c (reqFinalize cfg c).1 := by
  rw [reqFinalize_eq]
  cases c.inn.tx with
  | none => exact K.refl c
  | some uid =>
    simp only
    cases hp : reqFinalizePre c with
    | none => exact K.cursor (c := c) (.readAll _)
    | some p =>
      obtain ⟨c1, b⟩ := p
      obtain ⟨d, rfl, hd⟩ := reqFinalizePre_some hp
      have k1 : Rel c { c with inn := d } := by
        rcases hd with rfl | rfl | hs
        · exact K.refl c
        · exact K.same rfl
        · exact K.trans (b := { c with inn := (c.inn.peekSet).1 }) (K.same rfl) (walk_reqFinalizeScan K _ hs)
      cases b with
      | true => exact K.trans k1 (walk_txStateRequestComplete K.toReqFnRel cfg _ _ h1 h2)
      | false =>
        simp only
        cases hc : d.consolidate cfg.fieldLimitHard true with
        | none => exact k1
        | some q =>
          obtain ⟨d2, data⟩ := q
          have k2 : Rel c { c with inn := d2 } := K.trans k1 (K.consolidate (c := { c with inn := d }) hc)
          refine ite_fst (fun _ => K.trans k2 (walk_txStateRequestComplete K.toReqFnRel cfg _ _ h1 h2)) fun _ => ?_
          cases hg : reqFinalizeGo { c with inn := d2 } data with
          | none =>
            exact K.trans k2 (K.trans (b := { c with inn := { d2 with bodyDataLeft := -1 } }) (K.same rfl)
              (walk_txStateRequestComplete K.toReqFnRel cfg _ _ h1 h2))
          | some c3 =>
            have k3 : Rel c c3 := by
              rcases reqFinalizeGo_some hg with rfl | rfl
              · exact k2
              · exact K.trans k2 (K.same rfl)
            simp only
            cases hl : reqFinalizeLine cfg c3 data with
            | none => exact k3
            | some r =>
              obtain ⟨c6, data6⟩ := r
              simp only
              have k6 : Rel c c6 := by
                rcases reqFinalizeLine_some hl with rfl | ⟨d4, b4, hcb, rfl | ⟨d5, hc5, rfl⟩⟩
                · exact k3
                · exact K.trans k3 (K.cursor (.copy hcb))
                · exact K.trans (K.trans k3 (K.cursor (.copy hcb))) (K.consolidate (c := { c3 with inn := d4 }) hc5)
              exact K.trans (K.trans k6 (walk_reqProcessBodyData K.toCbRel cfg (some data6) 0 c6)) (K.cursor .clear)

theorem walk_reqConnectCheck (K : ReqRelS cfg B S Rel) (c : Conn) (h1 : S .connectWaitResponse := by trivial)
    (h2 : S .bodyDetermine := by trivial) : Rel c (reqConnectCheck c).1 := by
  unfold reqConnectCheck
  exact ite_fst (fun _ => K.trans (K.status c STREAM_DATA_OTHER) (K.toState _ _ h1)) fun _ => K.toState c _ h2

theorem walk_reqConnectProbeLoop (cfg : Cfg) (K : ReqRelS cfg B S Rel) (fuel : Nat) (c : Conn) (h1 : S .idle := by trivial)
    (h2 : S .ignoreDataAfter09 := by trivial) : Rel c (reqConnectProbeLoop cfg fuel c).1 := by
  induction fuel generalizing c with
  | zero => exact K.refl c
  | succ k ih =>
    unfold reqConnectProbeLoop
    simp only
    have kp : Rel c { c with inn := (c.inn.peekSet).1 } := K.same rfl
    refine ite_fst (fun _ => ?_) fun _ => ?_
    · cases hc : (c.inn.peekSet).1.consolidate cfg.fieldLimitHard true with
      | none => exact kp
      | some q =>
        obtain ⟨d2, data⟩ := q
        have k2 : Rel c { c with inn := d2 } := K.trans kp (K.consolidate (c := { c with inn := (c.inn.peekSet).1 }) hc)
        refine ite_fst (fun _ => ?_) fun _ => ?_
        · cases d2.tx with
          | none => exact k2
          | some uid => exact K.trans k2 (walk_txStateRequestComplete K.toReqFnRel cfg uid _ h1 h2)
        · exact K.trans k2 (K.trans (K.status { c with inn := d2 } STREAM_TUNNEL) (K.outTunnel _))
    · cases hn : (c.inn.peekSet).1.copyByte with
      | none => exact kp
      | some p =>
        obtain ⟨d, b⟩ := p
        exact K.trans (K.trans kp (K.cursor (c := { c with inn := (c.inn.peekSet).1 }) (.copy hn))) (ih _)

/-- a relation that bounds the cursors needs the two counted body states not to owe a negative amount (`ho1`, `ho2`; with `nb : ¬ B` pass
    `fun hb => (nb hb).elim`); one that reads the parser's state has to let it move anywhere (`hS`, an auto-param in LAST position: where
    `Rel` is an implication, as `InvRel P`, write `(walk_reqStateFn cfg K c ho1 ho2) w`, or `w` is taken for `hS`) -/
theorem walk_reqStateFn (cfg : Cfg) (K : ReqRelS cfg B S Rel) (c : Conn)
    (ho1 : B → c.inState = ReqState.bodyIdentity → 0 ≤ c.inn.bodyDataLeft)
    (ho2 : B → c.inState = ReqState.bodyChunkedData → 0 ≤ c.inn.chunkedLength) (hS : ∀ s, S s := by exact fun _ => trivial) :
    Rel c (reqStateFn cfg c).1 := by
  unfold reqStateFn
  cases hs : c.inState with
  | idle => exact walk_reqIdle K.toReqFnRel K.txCreate c (hS _)
  | line => exact walk_reqLineLoop cfg K.toReqRel _ c (hS _)
  | protocol => exact walk_reqProtocol K.toReqRel c (hS _) (hS _)
  | headers => exact walk_reqHeadersLoop cfg K.toReqRel _ c (hS _) (hS _)
  | connectCheck => exact walk_reqConnectCheck K c (hS _) (hS _)
  | connectWaitResponse => exact walk_reqConnectWaitResponse K.toReqRel c (hS _) (hS _)
  | connectProbeData => exact walk_reqConnectProbeLoop cfg K _ c (hS _) (hS _)
  | bodyDetermine => exact walk_reqBodyDetermine K.toReqRel c (hS _) (hS _) (hS _)
  | bodyIdentity => exact walk_reqBodyIdentity K.toReqRel c (fun hb => ho1 hb hs) (hS _)
  | bodyChunkedLength => exact walk_reqChunkedLengthLoop cfg K.toReqRel _ c (hS _) (hS _)
  | bodyChunkedData => exact walk_reqBodyChunkedData K.toReqRel c (fun hb => ho2 hb hs) (hS _)
  | bodyChunkedDataEnd => exact walk_reqChunkedDataEndLoop K.toReqRel _ c (hS _)
  | finalize => exact walk_reqFinalize cfg K.toReqRel c (hS _) (hS _)
  | ignoreDataAfter09 => exact walk_reqIgnore K.toReqRel c

theorem walk_reqPassStep (cfg : Cfg) (K : ReqRelS cfg B S Rel) {g : Bool} {c : Conn} {r : R} (h : reqPassStep cfg g c = some r)
    (ho1 : B → c.inState = ReqState.bodyIdentity → 0 ≤ c.inn.bodyDataLeft)
    (ho2 : B → c.inState = ReqState.bodyChunkedData → 0 ≤ c.inn.chunkedLength) (hS : ∀ s, S s := by exact fun _ => trivial) :
    Rel c r.1 := by
  rcases reqPassStep_cases h with rfl | ⟨uid, rfl⟩ | rfl
  · exact walk_reqStateFn cfg K c ho1 ho2 hS
  · exact walk_txStateRequestComplete K.toReqFnRel cfg _ _ (hS _) (hS _)
  · exact K.refl c

theorem walk_reqEnds (K : ReqRelS cfg B S Rel) {c : Conn} {rc : Rc} {r : Conn × Nat} (h : ReqEnds cfg c rc r) : Rel c r.1 := by
  obtain ⟨c3, d, s, h3, hd, _, rfl, _⟩ := h
  have k3 : Rel c c3 := by
    rcases h3 with rfl | rfl
    · exact K.refl _
    · exact walk_reqReceiverSend K.toReqFnRel false c
  have kd : Rel c3 { c3 with inn := d } := by
    rcases hd with rfl | hb
    · exact K.refl _
    · exact K.cursor (.setAside hb)
  exact K.trans k3 (K.trans kd (K.status _ s))

/-- (for relations that do not bound the cursors, `nb`: one that does needs the amounts owed not to be negative in every pass, which
    is known along a call only - its loop is `DriverLoop.rule` over `CallReach`, Lemmas/CursorInv.lean) -/
theorem walk_reqDriverLoop (cfg : Cfg) (K : ReqRelS cfg B S Rel) (nb : ¬ B) (g : Bool) (fuel : Nat) (c0 : Conn)
    (hS : ∀ s, S s := by exact fun _ => trivial) : Rel c0 (reqDriverLoop cfg g fuel c0).1 :=
  (reqDriverLoop_is cfg g).rule (I := Rel c0) (Q := fun r => Rel c0 r.1) (fun _ h => K.trans h (K.book rfl)) (fun _ h => h)
    (fun _ r h hs =>
      have k := K.trans h (K.trans (walk_reqPassStep cfg K hs (fun hb => absurd hb nb) (fun hb => absurd hb nb) hS)
        (walk_reqPassHook K.toReqFnRel r.1 r.2))
      ⟨fun _ _ => k, fun _ _ => k, fun _ _ e => K.trans k (walk_reqEnds K e)⟩) fuel c0 (K.refl c0)

end
end Htp.Conn
