/- Whole call histories: any interleaving of request data calls, response data calls, htp_connp_req_close, htp_connp_close, htp_connp_open
   and htp_connp_tx_freed keeps the two per-direction call invariants - so 'DATA means the whole chunk was consumed' and 'the line buffer
   stays within the hard limit' hold after every prefix of every history, not only call by call. Two tracks, the second resting on the
   first. `HistInv0` (buffers and amounts owed) is kept by a call under `CallOK`: the chunk length fits a size_t, and the outside fact
   `ClAtDecision` holds in the state the request parser is started in; `HistOK` asks `CallOK` at every position of a history. `HistInv`
   adds the state invariant `ClOK`, which the walk keeps and which gives `ClAtDecision` (`callOK_of_clOK`), so that only the sizes are
   left as a hypothesis (`CallSize`, `SizesOK`). The per-call lemmas go by cases over the six calls, the two closes through their
   equations (`reqClose_eq`, `connClose_fst`), because `CallOK` is a condition on a call in the state it is issued in. The
   cross-direction frames are in Lemmas/HistoryFrames.lean, the NULL chunk of a close call comes first here (`NB`: nothing is ever set aside, so the line
   buffer cannot grow; the walk's instances are those of Lemmas/CursorInv.lean and Lemmas/BufInvOut.lean). Stream gaps (NULL data with a
   length) are not among the calls. -/
import HtpModel.Lemmas.HistoryFrames
import HtpModel.Lemmas.ClInv
import HtpModel.Lemmas.ConnSweepHist
namespace Htp.Conn
open Htp Htp.Gen

def NB (hard : Nat) (d : Dir) : Prop := d.curNull = true ∧ (d.buf.map (·.length)).getD 0 ≤ hard

/-- with a NULL chunk htp_connp_req_buffer / htp_connp_res_buffer returns at once: nothing is set aside -/
theorem dirInv_nb (hard : Nat) : DirInv hard False (NB hard) where
  same w h hb := ⟨by rw [h.2.2.2.2]; exact w.1, by rw [hb]; exact w.2⟩
  step h w := by
    cases h with
    | copy h => rw [(Dir.copyByte_eq h).2.1]; exact ⟨w.1, w.2⟩
    | take h => rw [(Dir.nextByteConsume_eq h).2]; exact ⟨w.1, w.2⟩
    | setAside h =>
      rcases Dir.buffer_eq h with ⟨rfl, _⟩ | ⟨hn, _⟩
      · exact w
      · rw [w.1] at hn; cases hn
    | clear => exact ⟨w.1, Nat.zero_le _⟩
    | advance n _ => exact ⟨w.1, w.2⟩
    | readAll n => exact ⟨w.1, w.2⟩

theorem dirInvO_nb (hard : Nat) : DirInvO hard False (NB hard) where
  toDirInv := dirInv_nb hard
  loose w _ h2 _ _ hb := ⟨by rw [h2]; exact w.1, Nat.le_trans hb w.2⟩

/-- a NULL chunk: the close call `none 0`, or a gap -/
theorem reqData_null_buffer_bounded (cfg : Cfg) (len : Nat) (c : Conn) (hb : inBufLen c ≤ cfg.fieldLimitHard) :
    inBufLen (reqData cfg none len c).1 ≤ cfg.fieldLimitHard := by
  have wst : NB cfg.fieldLimitHard (reqStoreChunk none len c).inn := ⟨rfl, hb⟩
  rw [reqData_eq]
  refine reqDataCore_cases (P := fun r => inBufLen r.1 ≤ cfg.fieldLimitHard) cfg _ _ c
    (fun _ => hb) (fun _ => hb) (fun _ _ => hb) (fun _ _ => hb) (fun _ _ => hb) fun _ _ _ _ => ?_
  have w0 : NB cfg.fieldLimitHard (reqWakeOther (reqStoreChunk none len c)).inn := by rw [reqWakeOther_inn]; exact wst
  exact ((walk_reqDriverLoop cfg (reqRelS_inv (dirInv_nb _)) id _ _ _) w0).2

theorem resData_null_buffer_bounded (cfg : Cfg) (len : Nat) (c : Conn) (hb : outBufLen c ≤ cfg.fieldLimitHard) :
    outBufLen (resData cfg none len c).1 ≤ cfg.fieldLimitHard := by
  have wst : NB cfg.fieldLimitHard (resStoreChunk none len c).out := ⟨rfl, hb⟩
  rw [resData_eq]
  exact resDataCore_cases (P := fun r => outBufLen r.1 ≤ cfg.fieldLimitHard) cfg _ _ c
    (fun _ => hb) (fun _ => hb) (fun _ _ => hb) (fun _ _ => hb) (fun _ _ => hb) fun _ _ _ _ =>
      ((walk_resDriverLoop cfg (resRelS_inv (dirInvO_nb _)) id _ _ _) wst).2

/-- both line buffers within the hard limit, and in both directions the counted body states still owe bytes -/
def HistInv0 (cfg : Cfg) (c : Conn) : Prop :=
  inBufLen c ≤ cfg.fieldLimitHard ∧ outBufLen c ≤ cfg.fieldLimitHard ∧ OwedPos c ∧ OwedPosO c

theorem histInv0_of_views {cfg : Cfg} {c c' : Conn} (ki : XIn c c') (ko : KeepOV c c') (h : HistInv0 cfg c) : HistInv0 cfg c' :=
  ⟨by rw [inBufLen_of_xIn ki]; exact h.1, by rw [outBufLen_of_keepOV ko]; exact h.2.1, owedPos_of_xIn ki h.2.2.1,
    owedPosO_of_keepOV ko h.2.2.2⟩

theorem histInv0_fresh (cfg : Cfg) : HistInv0 cfg ({} : Conn) :=
  ⟨Nat.zero_le _, Nat.zero_le _, ⟨fun e => absurd e (by decide), fun e => absurd e (by decide)⟩,
    ⟨fun e => absurd e (by decide), fun e => absurd e (by decide)⟩⟩

/-- the outside facts one call needs, in the state it starts from: a chunk length that fits a size_t, and for every call that runs the
    request parser `ClAtDecision` (the Content-Length recorded for an identity body is not negative when the framing decision is taken) -/
def CallOK (cfg : Cfg) (c : Conn) : Call → Prop
  | .req d => (d.length : Int) < 18446744073709551616 ∧ ClAtDecision cfg (reqWakeOther (reqStoreChunk (some d) d.length c))
  | .res d => (d.length : Int) < 18446744073709551616
  | .close => ClAtDecision cfg (reqWakeOther (reqStoreChunk none 0 (markClosedOut (markClosedIn c))))
  | .reqClose => ClAtDecision cfg (reqWakeOther (reqStoreChunk none 0 (markClosedIn c)))
  | .open => True
  | .txFreed => True

theorem histInv0_req (cfg : Cfg) (d : Bytes) (c : Conn) (h : HistInv0 cfg c) (hs : (d.length : Int) < 18446744073709551616)
    (hcl : ClAtDecision cfg (reqWakeOther (reqStoreChunk (some d) d.length c))) :
    HistInv0 cfg (reqData cfg (some d) d.length c).1 := by
  obtain ⟨h1, h2, h3, h4⟩ := h
  obtain ⟨a, b⟩ := reqData_invariant cfg d c hs h1 h3 hcl
  obtain ⟨a', b'⟩ := reqData_keeps_res_invariant cfg (some d) d.length c h2 h4
  exact ⟨a, a', b, b'⟩

theorem histInv0_res (cfg : Cfg) (d : Bytes) (c : Conn) (h : HistInv0 cfg c) (hs : (d.length : Int) < 18446744073709551616) :
    HistInv0 cfg (resData cfg (some d) d.length c).1 := by
  obtain ⟨h1, h2, h3, h4⟩ := h
  obtain ⟨a, b⟩ := resData_invariant cfg d c hs h2 h4
  obtain ⟨a', b'⟩ := resData_keeps_req_invariant cfg (some d) d.length c h1 h3
  exact ⟨a', a, b', b⟩

theorem histInv0_open (cfg : Cfg) (c : Conn) (h : HistInv0 cfg c) : HistInv0 cfg (connOpen c) := by
  unfold connOpen
  split
  · exact h
  · exact histInv0_of_views (XIn.of_keep rfl) rfl h

theorem histInv0_txFreed (cfg : Cfg) (c : Conn) (h : HistInv0 cfg c) : HistInv0 cfg (txFreed c).1 := by
  obtain ⟨hi, ho, si, so, _⟩ := txFreed_dirs c
  refine histInv0_of_views (XIn.of_keep ?_) ?_ h
  · show InView (txFreed c).1 = InView c
    unfold InView; rw [hi, si]
  · show OutView (txFreed c).1 = OutView c
    unfold OutView; rw [ho, so]

theorem histInv0_markClosedIn (cfg : Cfg) (c : Conn) (h : HistInv0 cfg c) : HistInv0 cfg (markClosedIn c) :=
  markClosedIn_cases c (fun _ => h) fun _ => histInv0_of_views (XIn.of_keep rfl) rfl h

theorem histInv0_markClosedOut (cfg : Cfg) (c : Conn) (h : HistInv0 cfg c) : HistInv0 cfg (markClosedOut c) :=
  markClosedOut_cases c (fun _ => h) fun _ => histInv0_of_views (XIn.of_keep rfl) rfl h

theorem histInv0_reqNull (cfg : Cfg) (c : Conn) (h : HistInv0 cfg c)
    (hcl : ClAtDecision cfg (reqWakeOther (reqStoreChunk none 0 c))) : HistInv0 cfg (reqData cfg none 0 c).1 := by
  obtain ⟨h1, h2, h3, h4⟩ := h
  obtain ⟨a', b'⟩ := reqData_keeps_res_invariant cfg none 0 c h2 h4
  exact ⟨reqData_null_buffer_bounded cfg 0 c h1, a', reqData_owedPos cfg none 0 c rfl h3 hcl, b'⟩

theorem histInv0_resNull (cfg : Cfg) (c : Conn) (h : HistInv0 cfg c) : HistInv0 cfg (resData cfg none 0 c).1 := by
  obtain ⟨h1, h2, h3, h4⟩ := h
  obtain ⟨a', b'⟩ := resData_keeps_req_invariant cfg none 0 c h1 h3
  exact ⟨a', resData_null_buffer_bounded cfg 0 c h2, b', resData_owedPosO cfg none 0 c rfl h4⟩

theorem histInv0_reqClose (cfg : Cfg) (c : Conn) (h : HistInv0 cfg c)
    (hcl : ClAtDecision cfg (reqWakeOther (reqStoreChunk none 0 (markClosedIn c)))) : HistInv0 cfg (reqClose cfg c).1 := by
  rw [reqClose_eq]
  exact histInv0_reqNull cfg _ (histInv0_markClosedIn cfg c h) hcl

theorem histInv0_close (cfg : Cfg) (c : Conn) (h : HistInv0 cfg c)
    (hcl : ClAtDecision cfg (reqWakeOther (reqStoreChunk none 0 (markClosedOut (markClosedIn c))))) : HistInv0 cfg (connClose cfg c).1 := by
  rw [connClose_fst]
  exact histInv0_resNull cfg _ (histInv0_reqNull cfg _ (histInv0_markClosedOut cfg _ (histInv0_markClosedIn cfg c h)) hcl)

theorem runCall_inv0 (cfg : Cfg) (c : Conn) (call : Call) (h : HistInv0 cfg c) (hok : CallOK cfg c call) : HistInv0 cfg (runCall cfg c call) := by
  cases call with
  | req d => exact histInv0_req cfg d c h hok.1 hok.2
  | res d => exact histInv0_res cfg d c h hok
  | close => exact histInv0_close cfg c h hok
  | reqClose => exact histInv0_reqClose cfg c h hok
  | «open» => exact histInv0_open cfg c h
  | txFreed => exact histInv0_txFreed cfg c h

def HistOK (cfg : Cfg) (c0 : Conn) (calls : List Call) : Prop :=
  ∀ pre call, pre ++ [call] <+: calls → CallOK cfg (runCalls cfg c0 pre) call

theorem HistOK.prefix {cfg : Cfg} {c0 : Conn} {pre calls : List Call} (h : HistOK cfg c0 calls) (hp : pre <+: calls) : HistOK cfg c0 pre :=
  fun p cl hq => h p cl (List.IsPrefix.trans hq hp)

theorem histOK_of (cfg : Cfg) (c0 : Conn) (calls : List Call)
    (hsz : ∀ call ∈ calls, ∀ d, (call = .req d ∨ call = .res d) → (d.length : Int) < 18446744073709551616)
    (hreq : ∀ pre d, pre ++ [.req d] <+: calls → ClAtDecision cfg (reqWakeOther (reqStoreChunk (some d) d.length (runCalls cfg c0 pre))))
    (hrc : ∀ pre, pre ++ [.reqClose] <+: calls → ClAtDecision cfg (reqWakeOther (reqStoreChunk none 0 (markClosedIn (runCalls cfg c0 pre)))))
    (hcl : ∀ pre, pre ++ [.close] <+: calls →
      ClAtDecision cfg (reqWakeOther (reqStoreChunk none 0 (markClosedOut (markClosedIn (runCalls cfg c0 pre)))))) :
    HistOK cfg c0 calls := by
  intro pre call hp
  have hmem := mem_of_snoc_prefix hp
  cases call with
  | req d => exact ⟨hsz _ hmem d (Or.inl rfl), hreq pre d hp⟩
  | res d => exact hsz _ hmem d (Or.inr rfl)
  | close => exact hcl pre hp
  | reqClose => exact hrc pre hp
  | «open» => trivial
  | txFreed => trivial

theorem history_inv0 (cfg : Cfg) (c0 : Conn) (calls : List Call) (h0 : HistInv0 cfg c0) (hok : HistOK cfg c0 calls) :
    HistInv0 cfg (runCalls cfg c0 calls) := runCalls_inv_at (fun c call g h => runCall_inv0 cfg c call h g) c0 calls hok h0

theorem history_inv0_prefix (cfg : Cfg) (c0 : Conn) (calls pre : List Call) (h0 : HistInv0 cfg c0) (hok : HistOK cfg c0 calls)
    (hp : pre <+: calls) : HistInv0 cfg (runCalls cfg c0 pre) :=
  history_inv0 cfg c0 pre h0 (hok.prefix hp)

theorem history_buffer_bounded0 (cfg : Cfg) (c0 : Conn) (calls pre : List Call) (h0 : HistInv0 cfg c0) (hok : HistOK cfg c0 calls)
    (hp : pre <+: calls) :
    inBufLen (runCalls cfg c0 pre) ≤ cfg.fieldLimitHard ∧ outBufLen (runCalls cfg c0 pre) ≤ cfg.fieldLimitHard :=
  ⟨(history_inv0_prefix cfg c0 calls pre h0 hok hp).1, (history_inv0_prefix cfg c0 calls pre h0 hok hp).2.1⟩

theorem history_data_means_consumed0 (cfg : Cfg) (c0 : Conn) (calls : List Call) (h0 : HistInv0 cfg c0) (hok : HistOK cfg c0 calls) :
    (∀ pre d, pre ++ [.req d] <+: calls → (reqData cfg (some d) d.length (runCalls cfg c0 pre)).2 = STREAM_DATA →
      (reqData cfg (some d) d.length (runCalls cfg c0 pre)).1.inn.read = (reqData cfg (some d) d.length (runCalls cfg c0 pre)).1.inn.len) ∧
    (∀ pre d, pre ++ [.res d] <+: calls → (resData cfg (some d) d.length (runCalls cfg c0 pre)).2 = STREAM_DATA →
      (resData cfg (some d) d.length (runCalls cfg c0 pre)).1.out.read = (resData cfg (some d) d.length (runCalls cfg c0 pre)).1.out.len) := by
  refine ⟨fun pre d hp hdata => ?_, fun pre d hp hdata => ?_⟩
  · have hinv := history_inv0_prefix cfg c0 calls pre h0 hok (List.IsPrefix.trans (List.prefix_append pre [Call.req d]) hp)
    have hc : CallOK cfg (runCalls cfg c0 pre) (.req d) := hok pre _ hp
    exact reqData_data_consumed_inv cfg d _ hc.1 hinv.1 hinv.2.2.1 hc.2 hdata
  · have hinv := history_inv0_prefix cfg c0 calls pre h0 hok (List.IsPrefix.trans (List.prefix_append pre [Call.res d]) hp)
    have hc : CallOK cfg (runCalls cfg c0 pre) (.res d) := hok pre _ hp
    exact resData_data_consumed_inv cfg d _ hc hinv.2.1 hinv.2.2.2 hdata

/-- `HistInv0` and `ClOK`. The cursors are no part of it: `WFCur` / `WFB` hold from the store-chunk step of a data call to its end, not
    between calls. -/
def HistInv (cfg : Cfg) (c : Conn) : Prop :=
  inBufLen c ≤ cfg.fieldLimitHard ∧ outBufLen c ≤ cfg.fieldLimitHard ∧ OwedPos c ∧ OwedPosO c ∧ ClOK c

theorem HistInv.inv0 {cfg : Cfg} {c : Conn} (h : HistInv cfg c) : HistInv0 cfg c := ⟨h.1, h.2.1, h.2.2.1, h.2.2.2.1⟩
theorem HistInv.clOK {cfg : Cfg} {c : Conn} (h : HistInv cfg c) : ClOK c := h.2.2.2.2
theorem HistInv.mk' {cfg : Cfg} {c : Conn} (h : HistInv0 cfg c) (hc : ClOK c) : HistInv cfg c := ⟨h.1, h.2.1, h.2.2.1, h.2.2.2, hc⟩

theorem histInv_fresh (cfg : Cfg) : HistInv cfg ({} : Conn) := HistInv.mk' (histInv0_fresh cfg) clOK_init

theorem histInv_fresh_policy (cfg : Cfg) (pol : List (Nat × CbAction)) : HistInv cfg ({ policy := pol } : Conn) :=
  ⟨Nat.zero_le _, Nat.zero_le _,
    ⟨fun e => absurd (show ReqState.idle = ReqState.bodyIdentity from e) (by decide),
     fun e => absurd (show ReqState.idle = ReqState.bodyChunkedData from e) (by decide)⟩,
    ⟨fun e => absurd (show ResState.idle = ResState.bodyIdentityClKnown from e) (by decide),
     fun e => absurd (show ResState.idle = ResState.bodyChunkedData from e) (by decide)⟩,
    fun t h => by
      have : some t ∈ ([] : List (Option Tx)) := h
      simp at this⟩

def CallSize : Call → Prop
  | .req d => (d.length : Int) < 18446744073709551616
  | .res d => (d.length : Int) < 18446744073709551616
  | _ => True

/-- every chunk of the history is shorter than 2^64 bytes -/
def SizesOK (calls : List Call) : Prop := ∀ call ∈ calls, CallSize call

theorem callOK_of_clOK (cfg : Cfg) (c : Conn) (call : Call) (h : ClOK c) (hs : CallSize call) : CallOK cfg c call := by
  cases call with
  | req d => exact ⟨hs, clAtDecision_store cfg _ _ c h⟩
  | res d => exact hs
  | close => exact clAtDecision_store cfg _ _ _ ((keeps_markClosedOut (m := 0) _).tx.cl ((keeps_markClosedIn (m := 0) c).tx.cl h))
  | reqClose => exact clAtDecision_store cfg _ _ _ ((keeps_markClosedIn (m := 0) c).tx.cl h)
  | «open» => trivial
  | txFreed => trivial

theorem clOK_runCall (cfg : Cfg) (c : Conn) (call : Call) (h : ClOK c) : ClOK (runCall cfg c call) := (calls_runCall cfg c call).tx.cl h

theorem clOK_runCalls (cfg : Cfg) (c : Conn) (calls : List Call) (h : ClOK c) : ClOK (runCalls cfg c calls) :=
  (calls_runCalls cfg c calls).tx.cl h

theorem runCall_inv (cfg : Cfg) (c : Conn) (call : Call) (h : HistInv cfg c) (hs : CallSize call) : HistInv cfg (runCall cfg c call) :=
  HistInv.mk' (runCall_inv0 cfg c call h.inv0 (callOK_of_clOK cfg c call h.clOK hs)) (clOK_runCall cfg c call h.clOK)

theorem histInv_req (cfg : Cfg) (d : Bytes) (c : Conn) (h : HistInv cfg c) (hs : (d.length : Int) < 18446744073709551616) :
    HistInv cfg (reqData cfg (some d) d.length c).1 := runCall_inv cfg c (.req d) h hs
theorem histInv_res (cfg : Cfg) (d : Bytes) (c : Conn) (h : HistInv cfg c) (hs : (d.length : Int) < 18446744073709551616) :
    HistInv cfg (resData cfg (some d) d.length c).1 := runCall_inv cfg c (.res d) h hs
theorem histInv_close (cfg : Cfg) (c : Conn) (h : HistInv cfg c) : HistInv cfg (connClose cfg c).1 := runCall_inv cfg c .close h trivial
theorem histInv_reqClose (cfg : Cfg) (c : Conn) (h : HistInv cfg c) : HistInv cfg (reqClose cfg c).1 := runCall_inv cfg c .reqClose h trivial
theorem histInv_open (cfg : Cfg) (c : Conn) (h : HistInv cfg c) : HistInv cfg (connOpen c) := runCall_inv cfg c .open h trivial
theorem histInv_txFreed (cfg : Cfg) (c : Conn) (h : HistInv cfg c) : HistInv cfg (txFreed c).1 := runCall_inv cfg c .txFreed h trivial

theorem histOK_of_clOK (cfg : Cfg) (c0 : Conn) (calls : List Call) (h : ClOK c0) (hsz : SizesOK calls) : HistOK cfg c0 calls := by
  intro pre call hp
  exact callOK_of_clOK cfg _ call (clOK_runCalls cfg c0 pre h) (hsz call (mem_of_snoc_prefix hp))

theorem history_inv (cfg : Cfg) (c0 : Conn) (calls : List Call) (h0 : HistInv cfg c0) (hsz : SizesOK calls) :
    HistInv cfg (runCalls cfg c0 calls) := runCalls_inv (fun c call hs h => runCall_inv cfg c call h hs) c0 calls hsz h0

theorem history_inv_prefix (cfg : Cfg) (c0 : Conn) (calls pre : List Call) (h0 : HistInv cfg c0) (hsz : SizesOK calls)
    (hp : pre <+: calls) : HistInv cfg (runCalls cfg c0 pre) :=
  history_inv cfg c0 pre h0 (fun call hm => hsz call (hp.subset hm))

theorem history_buffer_bounded (cfg : Cfg) (c0 : Conn) (calls pre : List Call) (h0 : HistInv cfg c0) (hsz : SizesOK calls)
    (hp : pre <+: calls) :
    inBufLen (runCalls cfg c0 pre) ≤ cfg.fieldLimitHard ∧ outBufLen (runCalls cfg c0 pre) ≤ cfg.fieldLimitHard :=
  ⟨(history_inv_prefix cfg c0 calls pre h0 hsz hp).1, (history_inv_prefix cfg c0 calls pre h0 hsz hp).2.1⟩

/-- **DATA means the whole chunk was consumed, at every data call of every history**: whatever calls of either direction came before, a
    request (response) data call that returns HTP_STREAM_DATA leaves the read cursor of its direction at the end of the chunk -/
theorem history_data_means_consumed (cfg : Cfg) (c0 : Conn) (calls : List Call) (h0 : HistInv cfg c0) (hsz : SizesOK calls) :
    (∀ pre d, pre ++ [.req d] <+: calls → (reqData cfg (some d) d.length (runCalls cfg c0 pre)).2 = STREAM_DATA →
      (reqData cfg (some d) d.length (runCalls cfg c0 pre)).1.inn.read = (reqData cfg (some d) d.length (runCalls cfg c0 pre)).1.inn.len) ∧
    (∀ pre d, pre ++ [.res d] <+: calls → (resData cfg (some d) d.length (runCalls cfg c0 pre)).2 = STREAM_DATA →
      (resData cfg (some d) d.length (runCalls cfg c0 pre)).1.out.read = (resData cfg (some d) d.length (runCalls cfg c0 pre)).1.out.len) :=
  history_data_means_consumed0 cfg c0 calls h0.inv0 (histOK_of_clOK cfg c0 calls h0.clOK hsz)

theorem history_fresh (cfg : Cfg) (calls : List Call) (hsz : SizesOK calls) :
    HistInv cfg (runCalls cfg {} calls) ∧
    (∀ pre, pre <+: calls → inBufLen (runCalls cfg {} pre) ≤ cfg.fieldLimitHard ∧ outBufLen (runCalls cfg {} pre) ≤ cfg.fieldLimitHard) ∧
    (∀ pre d, pre ++ [.req d] <+: calls → (reqData cfg (some d) d.length (runCalls cfg {} pre)).2 = STREAM_DATA →
      (reqData cfg (some d) d.length (runCalls cfg {} pre)).1.inn.read = (reqData cfg (some d) d.length (runCalls cfg {} pre)).1.inn.len) ∧
    (∀ pre d, pre ++ [.res d] <+: calls → (resData cfg (some d) d.length (runCalls cfg {} pre)).2 = STREAM_DATA →
      (resData cfg (some d) d.length (runCalls cfg {} pre)).1.out.read = (resData cfg (some d) d.length (runCalls cfg {} pre)).1.out.len) :=
  ⟨history_inv cfg {} calls (histInv_fresh cfg) hsz,
   fun pre hp => history_buffer_bounded cfg {} calls pre (histInv_fresh cfg) hsz hp,
   (history_data_means_consumed cfg {} calls (histInv_fresh cfg) hsz).1,
   (history_data_means_consumed cfg {} calls (histInv_fresh cfg) hsz).2⟩

/-- the size hypothesis is met by every history whose chunks are shorter than 2^64 bytes - e.g. all of these -/
example : SizesOK [.open, .req (b!"GET /"), .res (b!"HTTP/1.1 2"), .close, .txFreed] := by
  intro call hm
  simp only [List.mem_cons, List.mem_nil_iff, or_false] at hm
  rcases hm with h | h | h | h | h <;> subst h <;> first | trivial | (show ((_ : Nat) : Int) < _; decide)

/-- an interleaved history from a fresh connection parser: an unterminated request line, then an unterminated status line. Both data calls
    return HTP_STREAM_DATA with the read cursor at the end of the chunk, and both line buffers hold what was set aside (5 and 10 bytes) -/
example :
    let calls : List Call := [.open, .req (b!"GET /"), .res (b!"HTTP/1.1 2")]
    let c := runCalls {} {} calls
    inBufLen c = 5 ∧ outBufLen c = 10 ∧ c.inState = .line ∧ c.outState = .line ∧
    (reqData {} (some (b!"GET /")) 5 (runCalls {} {} [.open])).2 = STREAM_DATA ∧
    (resData {} (some (b!"HTTP/1.1 2")) 10 (runCalls {} {} [.open, .req (b!"GET /")])).2 = STREAM_DATA ∧
    c.inn.read = c.inn.len ∧ c.out.read = c.out.len := by decide +kernel

/-- a history that ends inside a counted body state: a complete request, then a response whose Content-Length body is cut after 2 of 5
    bytes - the response parser waits in RES_BODY_IDENTITY_CL_KNOWN still owing 3 bytes (`OwedPosO` is not vacuous) -/
example :
    let calls : List Call := [.open, .req (b!"GET / HTTP/1.0\r\n\r\n"), .res (b!"HTTP/1.0 200 OK\r\nContent-Length: 5\r\n\r\nok")]
    let c := runCalls {} {} calls
    c.outState = .bodyIdentityClKnown ∧ c.out.bodyDataLeft = 3 ∧ c.inState = .idle ∧ inBufLen c = 0 ∧ outBufLen c = 0 := by decide +kernel

end Htp.Conn
